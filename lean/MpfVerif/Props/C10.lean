import MpfVerif.Lemmas.RulesCoils
import MpfVerif.Lemmas.RulesContent
import MpfVerif.Lemmas.RulesGen
/-!
# C10 — hardware switch-to-coil rules match the enabled devices exactly

Model: `MpfVerif.Rules` (Model/Rules.lean): a refused rule leaves the device disabled with nothing written; the software
EOS repulse manager releases the coil it enabled when its rule is cleared.
`run c init ops` is any sequence of enable / disable / sw_flip / sw_release / ball-search / switch change / hit /
lifecycle event / clock advance requests, each followed by every software timer that is due.
`WF c`: the (switch, coil) keys of all rules of all devices are pairwise distinct.
-/
namespace MpfVerif.C10
open MpfVerif.Rules

/-- **rules_exact**: in every reachable state the platform table holds exactly the rules of the enabled devices:
every key at most once (no duplicate install), every row belongs to an enabled device (no leak), every rule of an
enabled device is present (nothing missing); and every auxiliary switch handler (PSU notification, software EOS
repulse) belongs to an enabled device. -/
theorem rules_exact (c : Cfg) (hw : WF c) (ops : List Op) :
    ((run c init ops).table.map Entry.key).Nodup ∧
    (∀ e, e ∈ (run c init ops).table ↔
      ∃ i, i < c.n ∧ ((run c init ops).devs i).enabled = true ∧ e ∈ entriesOf (c.dev i)) ∧
    (∀ a ∈ (run c init ops).aux, ∃ i, i < c.n ∧ ((run c init ops).devs i).enabled = true ∧ a ∈ auxOf (c.dev i)) := by
  have h := inv_run hw ops init (inv_init c)
  refine ⟨h.nodup, ?_, h.auxSound⟩
  intro e
  constructor
  · exact h.sound e
  · rintro ⟨i, hi, hen, he⟩
    exact h.complete i hi hen e he

/-- **enable_idempotent**: a second `enable()` changes neither the table, the handlers, the coils nor any device. -/
theorem enable_idempotent (c : Cfg) (s : St) (i : Nat) :
    (enableDev c (enableDev c s i) i).table = (enableDev c s i).table ∧
    (enableDev c (enableDev c s i) i).aux = (enableDev c s i).aux ∧
    (enableDev c (enableDev c s i) i).on = (enableDev c s i).on ∧
    (enableDev c (enableDev c s i) i).devs = (enableDev c s i).devs := by
  obtain ⟨r, h⟩ := enableDev_idem c s i
  rw [h]
  exact ⟨rfl, rfl, rfl, rfl⟩

/-- **disable_idempotent**: a second `disable()` changes neither the table, the handlers, the coils nor any device. -/
theorem disable_idempotent (c : Cfg) (s : St) (i : Nat) :
    (disableDev c (disableDev c s i) i).table = (disableDev c s i).table ∧
    (disableDev c (disableDev c s i) i).aux = (disableDev c s i).aux ∧
    (disableDev c (disableDev c s i) i).on = (disableDev c s i).on ∧
    ∀ j, (disableDev c (disableDev c s i) i).devs j = (disableDev c s i).devs j := by
  rw [disableDev_of_off (off_disableDev_self c s i)]
  exact ⟨rfl, rfl, rfl, fun _ => rfl⟩

/-- **timeout_reenable_cancelled**: after a `disable()` the device has no re-enable delay pending and stays disabled
through every later sequence of requests (hits, ball search, clock advances past the old deadline, events …) that
contains no enable of that device (its API enable, an event in its enable events, a kickback whose fired event is
one): a pending autofire re-enable never fires after a disable. -/
theorem timeout_reenable_cancelled (c : Cfg) (s : St) (i : Nat) (ops : List Op)
    (hq : ∀ op ∈ ops, enables c i op = false) (hi : i < c.n) :
    ((run c (step c s (.disable i)) ops).devs i).enabled = false ∧
    (∀ a, (c.dev i).kind = .autofire a → ((run c (step c s (.disable i)) ops).devs i).reDue = none) := by
  refine off_run c i ops hq _ ((off_stable c i).fireAll ?_)
  simp only [doOp, hi, if_true]
  exact off_disableDev_self c _ i

/-- **no_rules_outside_ball**: take any reachable state and an event that every device lists in its disable events
and none in its enable events (MPF's defaults: `ball_will_end`, `service_mode_entered`; a tilt, a slam tilt and the
end of the game reach `ball_will_end` through the game's `end_ball`).  After it, and through every later sequence of
requests that enables nothing (no ball started), the table and the auxiliary handlers are empty, no coil is energised
by a software command and every device is disabled: cabinet buttons cannot fire coils. -/
theorem no_rules_outside_ball (c : Cfg) (hw : WF c) (pre ops : List Op) (e : Nat)
    (hd : ∀ i, i < c.n → (c.dev i).disEv.contains e = true)
    (hn : ∀ i, i < c.n → (c.dev i).enEv.contains e = false)
    (hq : ∀ op ∈ ops, ∀ i, i < c.n → enables c i op = false) :
    (run c (step c (run c init pre) (.ev e)) ops).table = [] ∧
    (run c (step c (run c init pre) (.ev e)) ops).aux = [] ∧
    (run c (step c (run c init pre) (.ev e)) ops).on = [] ∧
    ∀ i, i < c.n → ((run c (step c (run c init pre) (.ev e)) ops).devs i).enabled = false := by
  have hoff : ∀ i, i < c.n → Off c (run c (step c (run c init pre) (.ev e)) ops) i := by
    intro i hi
    exact off_run c i ops (fun op ho => hq op ho i hi) _ ((off_stable c i).fireAll (off_all_evStep c _ e hd hn i hi))
  have hinv : Inv c (run c (step c (run c init pre) (.ev e)) ops) :=
    inv_run hw ops _ ((inv_stable hw).step (fun _ _ => trivial) (inv_run hw pre init (inv_init c)))
  have hon : InvOn c (run c (step c (run c init pre) (.ev e)) ops) :=
    invOn_run ops _ ((invOn_stable c).step (fun _ _ => trivial) (invOn_run pre init (invOn_init c)))
  have hen := fun i hi => (hoff i hi).1
  exact ⟨(hinv.empty_of_off hen).1, (hinv.empty_of_off hen).2, hon.empty_of_off fun i _ hi _ => hen i hi, hen⟩

/-- **no_coil_energised_when_disabled**: in every reachable state (any configuration, any op sequence) a coil that a
software command has energised is owed to a flag of an *enabled* flipper: it is that flipper's main coil and the
flipper is software-flipped or its software EOS repulse has enabled the coil, or it is its hold coil and the flipper is
software-flipped.  Hence no coil is energised on behalf of a disabled flipper, and when every flipper is disabled no
coil is energised at all. -/
theorem no_coil_energised_when_disabled (c : Cfg) (ops : List Op) :
    (∀ x ∈ (run c init ops).on, ∃ i f, i < c.n ∧ (c.dev i).kind = .flipper f ∧
      ((run c init ops).devs i).enabled = true ∧
      ((x = f.main ∧ (((run c init ops).devs i).swFlipped = true ∨ ((run c init ops).devs i).repOn = true)) ∨
       (f.hold = some x ∧ ((run c init ops).devs i).swFlipped = true))) ∧
    ((∀ i f, i < c.n → (c.dev i).kind = .flipper f → ((run c init ops).devs i).enabled = false) →
      (run c init ops).on = []) := by
  have h := invOn_run (c := c) ops init (invOn_init c)
  refine ⟨fun x hx => ?_, h.empty_of_off⟩
  obtain ⟨i, hi, f, hk, ho⟩ := h x hx
  exact ⟨i, f, hi, hk, ho⟩

/-- **rule_content_exact**: the rules carry exactly the configured settings.  `effTable` is the platform table as written:
every row with its settings `[invert, debounce, pulse ms, pulse power, hold power, recycle, delay, hardware repulse, repulse
debounce]` as `AutofireCoil.enable` / the `Flipper._enable_*_rule` methods select them from the overwrites and the defaults
(`autofireEntry`, `flipperSpecs`), a power-scaled pulse being the base times the flipper power setting *sampled when the device
was enabled* (`DSt.factor`; a later change of the setting does not rewrite the rule - as in the code).  In every reachable state
each rule of an enabled device is in the table with exactly these settings, and every row is such a rule. -/
theorem rule_content_exact (c : Cfg) (hw : WF c) (ops : List Op) :
    (∀ i, i < c.n → ((run c init ops).devs i).enabled = true → ∀ e ∈ entriesOf (c.dev i),
      scaleEntry ((run c init ops).devs i).factor e ∈ effTable c (run c init ops)) ∧
    (∀ r ∈ effTable c (run c init ops), ∃ i, i < c.n ∧ ((run c init ops).devs i).enabled = true ∧
      ∃ e ∈ entriesOf (c.dev i), r = scaleEntry ((run c init ops).devs i).factor e) :=
  (inv_run hw ops init (inv_init c)).content hw

/-- **eos_manager_refines_source**: the five handlers of `SoftwareEosRepulseManager` as *translated from the source*
(`Gen/RulesOps.lean`, regenerated on every check) do to the model state exactly what the hand model does: button pressed /
released (`fswDev … 0`), EOS closed for the debounce time (`fireEos`), EOS opened (`fswDev … 1 false`: repulse when the button
is held and the EOS was closed long enough - enable + `_enabled_by_repulse` with hold settings, a pulse without), and `stop()`
(the coil a repulse enabled is released, the flag cleared).  So `no_coil_energised_when_disabled` speaks about the source's
handlers: a change such as clearing `_enabled_by_repulse` when the EOS has closed again no longer type-checks here. -/
theorem eos_manager_refines_source (c : Cfg) (s : St) (i : Nat) (f : FCfg) (hk : (c.dev i).kind = .flipper f)
    (hen : (s.devs i).enabled = true) (hm : hasManager f = true) :
    ((s.devs i).actOn = false →
      RulesGen.applyMgr f i (upd s i { s.devs i with actOn := true })
        (RulesGen.genMgr f (s.devs i) Gen.RulesOps.mgr_button_active) = some (fswDev c s i 0 true)) ∧
    ((s.devs i).actOn = true →
      RulesGen.applyMgr f i (upd s i { s.devs i with actOn := false })
        (RulesGen.genMgr f (s.devs i) Gen.RulesOps.mgr_button_inactive) = some (fswDev c s i 0 false)) ∧
    (isDue (s.devs i).eosDue s.now = true →
      RulesGen.applyMgr f i (upd s i { s.devs i with eosDue := none })
        (RulesGen.genMgr f (s.devs i) Gen.RulesOps.mgr_eos_closed_long_enough) = some (fireEos s i)) ∧
    ((s.devs i).eosOn = true →
      RulesGen.applyMgr f i (upd s i { s.devs i with eosOn := false, eosSince := s.now, eosDue := none })
        (RulesGen.genMgr f (s.devs i) Gen.RulesOps.mgr_repulse_on_eos_open) = some (fswDev c s i 1 false)) ∧
    RulesGen.applyMgr f i s (RulesGen.genMgr f (s.devs i) Gen.RulesOps.mgr_stop) =
      some (if (s.devs i).repOn then coilOff (upd s i { s.devs i with repOn := false }) f.main else s) := by
  -- each handler: split on what the program branches on; `simp` with the `pystore` equations runs it on that branch
  refine ⟨fun hact => ?_, fun hact => ?_, fun hdue => ?_, fun heos => ?_, ?_⟩
  · simp [RulesGen.genMgr, Py.callS_eq, Gen.RulesOps.mgr_button_active, pystore, RulesGen.upd_upd, fswDev, hk, hen, hm, hact]
  · simp [RulesGen.genMgr, Py.callS_eq, Gen.RulesOps.mgr_button_inactive, pystore, RulesGen.upd_upd, fswDev, hk, hen, hm, hact]
  · simp [RulesGen.genMgr, Py.callS_eq, Gen.RulesOps.mgr_eos_closed_long_enough, pystore, RulesGen.upd_upd, fireEos, hdue]
  · simp [RulesGen.genMgr, Py.callS_eq, Gen.RulesOps.mgr_repulse_on_eos_open, pystore]
    -- repulse iff button held and EOS was closed long enough; `enable` with hold settings, `pulse` without
    cases hb : (s.devs i).button <;> cases hl : (s.devs i).eosLong <;> cases hh : f.hold <;>
      simp [pystore, RulesGen.upd_upd, devs_coilOn, RulesGen.upd_coilOn, fswDev, hk, hen, hm, heos, hb, hl, hh]
  · simp [RulesGen.genMgr, Py.callS_eq, Gen.RulesOps.mgr_stop, pystore]
    cases (s.devs i).repOn <;> simp [pystore]

/-- **autofire_refines_source**: `AutofireCoil.enable` and `AutofireCoil.disable` as *translated from the source*
(`Gen/RulesOps.lean`, regenerated on every check) do to the model state exactly what the hand model's `enableDev` /
`disableDev` do for an autofire coil or kickback whose rule the platform accepts: `enable` of an enabled device does nothing;
otherwise exactly one row is written - by the plain rule setter when `coil_pulse_delay` is 0, by the delayed one otherwise -
whose settings are the ones `autofireEntry` selects (recycle: `coil_overwrite` first, else the coil's default with None read
as True; debounce: `switch_overwrite` first, else the switch's own, "normal" only; invert: `reverse_switch`; pulse ms / power
from `coil_overwrite`), and only then `_enabled` is set; `disable` always removes the re-enable delay and clears the rule iff
the device was enabled.  So `rules_exact` / `rule_content_exact` speak about the source's enable/disable: a
change such as `default_recycle in (True,)`, taking the switch's debounce before the overwrite, or clearing the rule without
resetting `_enabled` no longer type-checks here. -/
theorem autofire_refines_source (c : Cfg) (s : St) (i : Nat) (a : ACfg) (hk : (c.dev i).kind = .autofire a) :
    (installable (c.dev i) = true →
      RulesGen.applyAf (c.dev i) a i s (RulesGen.genAf a (s.devs i) Gen.RulesOps.af_enable) = some (enableDev c s i)) ∧
    RulesGen.applyAf (c.dev i) a i s (RulesGen.genAf a (s.devs i) Gen.RulesOps.af_disable) = some (disableDev c s i) := by
  refine ⟨fun hok => ?_, ?_⟩
  · cases he : (s.devs i).enabled <;> simp [RulesGen.genAf, Py.callS_eq, Gen.RulesOps.af_enable, pystore, he, enableDev]
    -- enabled: both sides do nothing (closed above); disabled: recycle and debounce come from the overwrite if there is one,
    -- the rule setter is the plain one iff `coil_pulse_delay` is 0
    cases h1 : a.owRecycle <;> cases h2 : a.owDeb <;> by_cases h3 : a.delay = 0 <;>
      simp [pystore, h1, h2, h3, hk, hok, installRules, entriesOf, auxOf, specsOf, concatMap, autofireEntry,
        RulesGen.rowOfCall, RulesGen.auxOfCall, upd]
    -- left: the same `match` on `defRecycle` from two sources
    all_goals rfl
  · simp [RulesGen.genAf, Py.callS_eq, Gen.RulesOps.af_disable, pystore]
    cases he : (s.devs i).enabled <;> simp [pystore, disableDev, clearRules, upd, hk, he]

/-! ## the hypotheses are satisfiable: a dual-wound flipper with EOS switch and software repulse, an autofire with
timeout protection and a kickback that disables itself on its fired event -/

def exCfg : Cfg :=
  ⟨3, fun i =>
    if i = 0 then { kind := .flipper { act := some 0, eos := some 1, main := 0, hold := some 1, repulse := true },
                    enEv := [0], disEv := [1, 4] }
    else if i = 1 then { kind := .autofire { sw := 2, coil := 2, watch := 1000, maxHits := 2, disableMs := 500 },
                         enEv := [0], disEv := [1, 4] }
    else { kind := .autofire { sw := 3, coil := 4, fired := some 200 }, enEv := [0], disEv := [1, 4, 200] }⟩

/-- ball started: five rows; two hits trip the timeout protection (4 rows); the kickback fires and disables itself -/
example : ((run exCfg init [.ev 0]).table.map Entry.key) = [(0, 0), (1, 0), (0, 1), (2, 2), (3, 4)] := by decide
example : ((run exCfg init [.ev 0, .hit 1, .hit 1]).table.map Entry.key) = [(0, 0), (1, 0), (0, 1), (3, 4)] := by decide +kernel
example : ((run exCfg init [.ev 0, .hit 1, .hit 1, .advance 500]).table.map Entry.key) =
    [(0, 0), (1, 0), (0, 1), (3, 4), (2, 2)] := by decide +kernel
example : ((run exCfg init [.ev 0, .hit 1, .hit 1, .hit 2, .ev 1, .advance 500]).table) = [] := by decide +kernel
example : enables exCfg 1 (.advance 500) = false ∧ enables exCfg 1 (.hit 2) = false := by decide
/-- software flip energises the hold coil of the dual-wound flipper; ball_will_end releases it -/
example : (run exCfg init [.ev 0, .swFlip 0]).on = [1] ∧ (run exCfg init [.ev 0, .swFlip 0, .ev 1]).on = [] := by decide +kernel

/-- `autofire_refines_source` is not vacuous: device 1 of `exCfg` is an autofire coil whose rule is accepted, and running the
translated `enable` on the initial state writes its row (key (2, 2)) and sets `enabled` -/
example : (exCfg.dev 1).kind = .autofire { sw := 2, coil := 2, watch := 1000, maxHits := 2, disableMs := 500 } ∧
    installable (exCfg.dev 1) = true := ⟨rfl, by decide⟩
example : ((RulesGen.applyAf (exCfg.dev 1) { sw := 2, coil := 2, watch := 1000, maxHits := 2, disableMs := 500 } 1 init
      (RulesGen.genAf { sw := 2, coil := 2, watch := 1000, maxHits := 2, disableMs := 500 } (init.devs 1)
        Gen.RulesOps.af_enable)).map (fun s => (s.table.map Entry.key, (s.devs 1).enabled))) = some ([(2, 2)], true) := by
  decide +kernel

/-! ### software EOS repulse: the coil a repulse enabled stays owed to the flipper when the EOS closes again, and is released
when the flipper is disabled (the seeded change `C10-eos-repulse-flag-cleared-early` clears the flag on the second closure) -/
def eosCfg : Cfg :=
  ⟨1, fun _ => { kind := .flipper { act := some 0, eos := some 1, main := 0, repulse := true, eosMs := 250, mainDefHold := some 125 },
                 enEv := [0], disEv := [1] }⟩

example : (run eosCfg init [.enable 0, .fsw 0 0 true, .fsw 0 1 true, .advance 500, .fsw 0 1 false]).on = [0] := by decide +kernel
example : (run eosCfg init [.enable 0, .fsw 0 0 true, .fsw 0 1 true, .advance 500, .fsw 0 1 false, .fsw 0 1 true, .advance 500]).on = [0] ∧
    ((run eosCfg init [.enable 0, .fsw 0 0 true, .fsw 0 1 true, .advance 500, .fsw 0 1 false, .fsw 0 1 true, .advance 500]).devs 0).eosLong = true := by decide +kernel
example : (run eosCfg init [.enable 0, .fsw 0 0 true, .fsw 0 1 true, .advance 500, .fsw 0 1 false, .fsw 0 1 true, .advance 500, .ev 1]).on = [] := by decide +kernel


/-- rule content: an autofire with reversed NC switch, overwrites and a delayed pulse; a flipper whose pulse follows the power
setting sampled at enable (10 ms × 0.8), not the later 1.2 -/
def contCfg : Cfg :=
  ⟨2, fun i =>
    if i = 0 then { kind := .autofire { sw := 2, coil := 0, reverse := true, owDeb := some true, defRecycle := some false,
                                         owPulse := some 30, defPulse := 20, owPower := some 500, delay := 50 } }
    else { kind := .flipper { act := some 0, main := 2, power := true, mainDefHold := some 125 } }⟩
example : (effTable contCfg (run contCfg init [.enable 0])) = [⟨2, 0, 5, [1, 1, 30, 500, 0, 0, 50, 0, 0], false⟩] := by decide +kernel
example : ((effTable contCfg (run contCfg init [.setting 800, .enable 1, .setting 1200])).map Entry.cont) =
    [[0, 0, 8, 1000, 126, 0, 0, 0, 0]] := by decide +kernel

end MpfVerif.C10
