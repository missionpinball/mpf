import MpfVerif.Lemmas.Mode
/-!
# C07 — Mode lifecycle is well-formed and leaves nothing behind

Property theorems only, about `Model/Mode.lean`.  `run (init cfg) ops` is the state after an arbitrary sequence of
requests (`start`/`stop`, accepted or turned down), scheduler choices (which pending lifecycle callback runs next) and
user registrations, for arbitrary mode configurations `cfg`; steps that are not enabled are skipped.
-/
namespace MpfVerif.C07
open MpfVerif.Mode

/-- Clause 1: for every mode the lifecycle events posted so far are a prefix of
(will_start starting started will_stop stopping stopped)*, and the position reached is the one the mode's flags say
(idle 0, starting 2, active 3, stopping 5) — after ANY sequence of ops. -/
theorem lifecycle_order (cfg : Nat → Cfg) (ops : List Op) (m : Nat) :
    dfa 0 (proj m (run (init cfg) ops).log) = some (pos ((run (init cfg) ops).modes m)) :=
  (run_inv ops (inv_init cfg)).life m

/-- Clause 2: `active_modes` contains exactly the modes whose active flag is set, each once, strictly sorted by
(priority, name) descending — after ANY sequence of ops. -/
theorem active_list_exact (cfg : Nat → Cfg) (ops : List Op) :
    let s := run (init cfg) ops
    (∀ m, m ∈ s.act ↔ (s.modes m).active = true) ∧ s.act.Nodup ∧
      s.act.Pairwise (fun a b => before s.modes a b = true) := by
  have hI := run_inv ops (inv_init cfg)
  refine ⟨hI.mem, hI.sorted.imp fun {a b} hab heq => ?_, hI.sorted⟩
  rw [heq, before_irrefl] at hab
  cases hab

/-- the flags exclude each other: a mode is never active and starting at once, and stopping only while active -/
theorem flags_consistent (cfg : Nat → Cfg) (ops : List Op) (m : Nat) :
    let s := run (init cfg) ops
    ((s.modes m).active = true → (s.modes m).starting = false) ∧ ((s.modes m).stopping = true → (s.modes m).active = true) :=
  ⟨(run_inv ops (inv_init cfg)).excl m, (run_inv ops (inv_init cfg)).stopAct m⟩

/-- Clause 3: whatever happened before, when the cleanup of a stop runs in `_mode_stopped_callback` (still pending, no
newer start of that mode under way), no event handler, switch handler or delay owned by that mode is left, nothing a
config player recorded under its context and no delay or periodic task of one of its devices.  (`_stopped` always
leaves the cleanup pending: `stopped_leaves_cleanup_pending`.) -/
theorem registries_restored (cfg : Nat → Cfg) (ops : List Op) (m : Nat) (s' : St)
    (h : step (run (init cfg) ops) (.stoppedCb m) = some s')
    (ha : ((run (init cfg) ops).modes m).active = false) (hs : ((run (init cfg) ops).modes m).starting = false)
    (hc : ((run (init cfg) ops).modes m).cleanupPending = true) :
    (∀ e ∈ s'.bus, e.owner ≠ m) ∧ (∀ e ∈ s'.sw, e.owner ≠ m) ∧ (∀ e ∈ s'.dl, e.owner ≠ m) ∧
    (∀ e ∈ s'.fx, e.owner ≠ m) ∧ (∀ e ∈ s'.tm, e.owner ≠ m) := by
  cases step_stoppedCb h
  simp only [cbCore, cleanup, hc, if_true]
  exact ⟨(run_inv ops (inv_init cfg)).idle_cleanup_bus ha hs, not_owned_of_filter _ m, not_owned_of_filter _ m,
    (run_fxTmInv ops (fxTmInv_init cfg)).idle_fx ha hs, not_owned_of_filter _ m⟩

theorem stopped_leaves_cleanup_pending (st st' : St) (m : Nat) (h : step st (.stopped m) = some st') :
    (st'.modes m).cleanupPending = true ∧ (st'.modes m).active = false := by
  simp only [step, Option.ite_none_left_eq_some, Option.some.injEq] at h
  obtain ⟨_, rfl⟩ := h
  simp

/-- The one-shot handler `ModeController._player_turn_ended` registers on `mode_<n>_started` for a game mode that is
still starting when the player's turn ends: after ANY op sequence such a handler exists only for a mode that is (still)
starting — it fires in the drain of that event and requests the stop. -/
theorem turn_end_handler_only_while_starting (cfg : Nat → Cfg) (ops : List Op) (e : Ent)
    (he : e ∈ (run (init cfg) ops).bus) (hc : e.cls = .turn) :
    ((run (init cfg) ops).modes e.owner).starting = true :=
  (run_inv ops (inv_init cfg)).turnOwned e he hc

/-- Frame: no step of mode `m` (lifecycle or user code) touches a registry entry owned by another mode. -/
theorem others_untouched (st st' : St) (op : Op) (h : step st op = some st') :
    st'.bus.filter (fun e => e.owner != op.target) = st.bus.filter (fun e => e.owner != op.target) ∧
    st'.sw.filter (fun e => e.owner != op.target) = st.sw.filter (fun e => e.owner != op.target) ∧
    st'.dl.filter (fun e => e.owner != op.target) = st.dl.filter (fun e => e.owner != op.target) ∧
    st'.fx.filter (fun e => e.owner != op.target) = st.fx.filter (fun e => e.owner != op.target) ∧
    st'.tm.filter (fun e => e.owner != op.target) = st.tm.filter (fun e => e.owner != op.target) :=
  have F := step_frame h
  ⟨F.bus, F.sw, F.dl, F.fx, F.tm⟩

/-- Config players: after ANY op sequence nothing is recorded under the context of a mode that is neither starting nor
active: what a play leaves behind (light stack entry, show instance, enabled coil) exists only between the mode's `start`
(conditional entries are evaluated and played there) and its `_stopped`, which clears it; a stale call — from a
snapshot of the handler list taken before the mode stopped — changes nothing, and a subscription of a mode that is not
running cannot be re-evaluated (it was cancelled). -/
theorem config_player_effects_die_with_mode (cfg : Nat → Cfg) (ops : List Op) (m : Nat)
    (ha : ((run (init cfg) ops).modes m).active = false) (hs : ((run (init cfg) ops).modes m).starting = false) :
    (∀ e ∈ (run (init cfg) ops).fx, e.owner ≠ m) ∧
    (∀ id, step (run (init cfg) ops) (.cfgPlay m id) = some (run (init cfg) ops)) ∧
    (∀ id on, step (run (init cfg) ops) (.cfgSub m id on) = none) := by
  refine ⟨(run_fxTmInv ops (fxTmInv_init cfg)).idle_fx ha hs, ?_, ?_⟩
  · intro id
    simp [step, ha]
  · intro id on
    simp [step, up, ha, hs]

/-- the guard of `config_play_callback`: an entry called for a mode that is not active changes nothing at all -/
theorem stale_config_play_has_no_effect (st : St) (m id : Nat) (ha : (st.modes m).active = false) :
    step st (.cfgPlay m id) = some st := by
  simp [step, ha]

/-- Device-owned delay managers and periodic tasks: after ANY op sequence a pending one belongs to a mode whose devices
are loaded (between the accepted start and the cleanup of the stop); a device of a mode that is not running cannot
schedule one; and when the cleanup of a stop runs none of that mode is left. -/
theorem device_timers_die_with_mode (cfg : Nat → Cfg) (ops : List Op) (m : Nat) :
    let s := run (init cfg) ops
    (alive (s.modes m) = false → (∀ e ∈ s.tm, e.owner ≠ m) ∧ ∀ id, step s (.addTm m id) = none) ∧
    (∀ s', step s (.stoppedCb m) = some s' → (s.modes m).cleanupPending = true → ∀ e ∈ s'.tm, e.owner ≠ m) := by
  intro s
  refine ⟨fun hd => ⟨fun e he heq => ?_, fun id => by simp [step, hd]⟩, fun s' h hc => ?_⟩
  · rw [← heq, (run_fxTmInv ops (fxTmInv_init cfg)).tmOwned e he] at hd
    cases hd
  · cases step_stoppedCb h
    simp only [cbCore, cleanup, hc, if_true]
    exact not_owned_of_filter _ m

/-- N cycles: any sequence of steps of mode `m` alone (any number of start/stop cycles, registrations, plays, timers, in
any interleaving) that ends with a completed stop (its cleanup running in the callback) leaves all five registries
exactly as they were before, provided `m` owned nothing at the beginning. -/
theorem cycles_restore (cfg : Nat → Cfg) (pre ops : List Op) (m : Nat) (s' : St)
    (hclean : let s0 := run (init cfg) pre
      (∀ e ∈ s0.bus, e.owner ≠ m) ∧ (∀ e ∈ s0.sw, e.owner ≠ m) ∧ (∀ e ∈ s0.dl, e.owner ≠ m) ∧
      (∀ e ∈ s0.fx, e.owner ≠ m) ∧ (∀ e ∈ s0.tm, e.owner ≠ m))
    (htarget : ∀ op ∈ ops, op.target = m)
    (h : step (run (run (init cfg) pre) ops) (.stoppedCb m) = some s')
    (ha : ((run (run (init cfg) pre) ops).modes m).active = false)
    (hs : ((run (run (init cfg) pre) ops).modes m).starting = false)
    (hc : ((run (run (init cfg) pre) ops).modes m).cleanupPending = true) :
    s'.bus = (run (init cfg) pre).bus ∧ s'.sw = (run (init cfg) pre).sw ∧ s'.dl = (run (init cfg) pre).dl ∧
    s'.fx = (run (init cfg) pre).fx ∧ s'.tm = (run (init cfg) pre).tm := by
  have F : Frame m (run (init cfg) pre) s' := (run_frame htarget).trans (step_frame h)
  rw [← run_append] at h ha hs hc
  obtain ⟨r1, r2, r3, r4, r5⟩ := registries_restored cfg (pre ++ ops) m s' h ha hs hc
  obtain ⟨c1, c2, c3, c4, c5⟩ := hclean
  exact ⟨eq_of_others F.bus r1 c1, eq_of_others F.sw r2 c2, eq_of_others F.dl r3 c3, eq_of_others F.fx r4 c4,
    eq_of_others F.tm r5 c5⟩

/-- Accepted requests make progress: an accepted start leaves `_started` enabled, which activates the mode; an
accepted stop leaves `_stopped` enabled, which deactivates it and leaves `_mode_stopped_callback` enabled. -/
theorem accepted_start_activates (st st1 : St) (m : Nat) (p : Option Int) (q : Bool)
    (ha : (st.modes m).active = false) (hs : (st.modes m).starting = false)
    (h : step st (.start m p q true) = some st1) :
    ∃ st2, step st1 (.started m) = some st2 ∧ (st2.modes m).active = true ∧ (st2.modes m).starting = false := by
  simp [step, ha, hs] at h
  subst h
  simp [step, startCore]

theorem accepted_stop_completes (st st1 : St) (m : Nat)
    (ha : (st.modes m).active = true) (hp : (st.modes m).stopping = false)
    (h : step st (.stop m) = some st1) :
    ∃ st2, step st1 (.stopped m) = some st2 ∧ (st2.modes m).active = false ∧ (st2.modes m).stopping = false ∧
      ∃ st3, step st2 (.stoppedCb m) = some st3 := by
  simp [step, ha, hp] at h
  subst h
  simp [step]

/-- A start request that the guards of `Mode.start` turn down (game mode outside a game, mode already active - which
includes stopping -, mode already starting) changes NOTHING, in particular not the priority of the running mode
(`Mode.start` assigns `self.priority` only after its guards), whatever priority the request carried: `active_modes`,
which is only re-sorted when a mode becomes active or inactive, cannot get out of order through a refused request. -/
theorem refused_start_changes_nothing (st : St) (m : Nat) (p : Option Int) (q g : Bool)
    (h : g = false ∨ (st.modes m).active = true ∨ (st.modes m).starting = true) :
    step st (.start m p q g) = some st := by
  rcases h with h | h | h <;> simp [step, h]

/-- ... in every reachable state also while the mode is stopping (its `mode_<n>_stopping` queue event may be held open for
any time): stopping implies active. -/
theorem refused_start_while_stopping (cfg : Nat → Cfg) (ops : List Op) (m : Nat) (p : Option Int) (q g : Bool)
    (h : ((run (init cfg) ops).modes m).stopping = true) :
    step (run (init cfg) ops) (.start m p q g) = some (run (init cfg) ops) :=
  refused_start_changes_nothing _ m p q g (Or.inr (Or.inl ((run_inv ops (inv_init cfg)).stopAct m h)))

/-- The priority of a mode changes in two steps only: an ACCEPTED start of that mode (to the requested or the configured
priority) and its `_stopped` (back to 0) - no other op of any mode, and no refused request, touches it. -/
theorem priority_changes_only_at_accepted_start_or_stopped (st st' : St) (op : Op) (m : Nat)
    (h : step st op = some st') (hne : (st'.modes m).prio ≠ (st.modes m).prio) :
    (∃ p q, op = .start m p q true ∧ (st.modes m).active = false ∧ (st.modes m).starting = false) ∨ op = .stopped m := by
  refine Or.resolve_left ?_ hne
  apply step_cases h
  case start =>
    intro m' p q ha hs
    by_cases hm : m = m'
    · subst hm
      exact .inr (.inl ⟨p, q, rfl, ha, hs⟩)
    · exact .inl (congrArg MState.prio (((cleanup_frame st m').trans (startCore_frame _ m' p q)).modes m hm))
  case stopped =>
    intro m' _
    by_cases hm : m = m'
    · subst hm
      exact .inr (.inr rfl)
    · exact .inl (congrArg MState.prio (upd_other _ _ _ m hm))
  case started | startedCb | stop =>
    intros
    exact .inl (upd_congr (·.prio) (by rfl) m)
  case stoppedCb =>
    intro m' _
    exact .inl ((upd_congr (·.prio) (by rfl) m).trans (cleanup_modes (·.prio) (fun _ => rfl) st m' m))
  all_goals
    intros
    exact .inl rfl

/-- An accepted stop cancels every delay and switch handler of the mode at once (`Mode.stop`: `_remove_mode_switch_handlers`,
`delay.clear()`): right after the request no delay of the mode can fire, however long the `mode_<n>_stopping` queue
event is held (a delay added later, while stopping, is a new one - D12). -/
theorem accepted_stop_cancels_delays (st st1 : St) (m : Nat)
    (ha : (st.modes m).active = true) (hp : (st.modes m).stopping = false)
    (h : step st (.stop m) = some st1) :
    (∀ e ∈ st1.dl, e.owner ≠ m) ∧ (∀ e ∈ st1.sw, e.owner ≠ m) ∧ (∀ id, step st1 (.fireDl m id) = none) := by
  simp [step, ha, hp] at h
  subst h
  exact ⟨not_owned_of_filter _ m, not_owned_of_filter _ m, fun id => by simp [step, ownedBy]⟩

/-- Device control events (handlers the mode registers in `_setup_device_control_events`): whenever such a handler is
called for a mode that is neither starting nor active - e.g. from the snapshot of a queue event's handler list taken
before the mode stopped - the device's control method is not called and no delayed call is scheduled.  (What a call
made while the mode runs schedules is an owned delay and is covered by `registries_restored`.) -/
theorem stale_control_event_has_no_effect (st : St) (m : Nat) (dl : Option Nat)
    (ha : (st.modes m).active = false) (hs : (st.modes m).starting = false) :
    step st (.ctlCall m dl) = some st := by
  simp [step, up, ha, hs]

/-! ### non-vacuity -/

def exCfg : Nat → Cfg
  | 1 => { prio := 200, nOwn := 2, nCfg := 1, nDev := 1 }
  | 2 => { prio := 200, useWait := true, nOwn := 1 }
  | _ => { prio := 300 }

/-- two overlapping modes of equal priority, user registrations while running and while stopping, a full cycle:
nothing of mode 1 is left, mode 2 is still up with its entry -/
example : (let s := run (init exCfg) [.start 1 none false true, .start 2 none true true, .started 2, .started 1,
      .addH 1 7, .addSw 1 8, .addDl 1 9, .startedCb 1, .stop 1, .addDl 1 10, .addSw 1 11, .stopped 1, .stoppedCb 1]
    (s.act, s.bus.map (·.owner), s.sw, s.dl, (s.modes 1).active, s.log.length)) = ([2], [2], [], [], false, 9) := by
  decide

/-- The restart from a `mode_<n>_stopped` handler: a start accepted while the cleanup of the previous stop is still
pending performs that cleanup first — afterwards the mode owns exactly the fresh footprint of this start, the cleanup
is no longer pending — -/
theorem restart_starts_clean (cfg : Nat → Cfg) (ops : List Op) (m : Nat) (p : Option Int) (q : Bool) (s1 : St)
    (ha : ((run (init cfg) ops).modes m).active = false) (hs : ((run (init cfg) ops).modes m).starting = false)
    (hc : ((run (init cfg) ops).modes m).cleanupPending = true)
    (h : step (run (init cfg) ops) (.start m p q true) = some s1) :
    s1.bus.filter (ownedBy m) = mkEnts m .own (cfg m).nOwn ++ mkEnts m .cfg (cfg m).nCfg ∧
    (∀ e ∈ s1.sw, e.owner ≠ m) ∧ (∀ e ∈ s1.dl, e.owner ≠ m) ∧ (s1.modes m).cleanupPending = false := by
  have hcfg : (run (init cfg) ops).cfg = cfg := run_cfg _ ops
  simp [step, ha, hs] at h
  subst h
  simp only [startCore, cleanup, hc, if_true, hcfg]
  refine ⟨?_, not_owned_of_filter _ m, not_owned_of_filter _ m, by simp⟩
  have h1 := (run_inv ops (inv_init cfg)).idle_cleanup_bus ha hs
  have h2 : ∀ c n, (mkEnts m c n).filter (ownedBy m) = mkEnts m c n := fun c n =>
    List.filter_eq_self.mpr fun e he => by simp [ownedBy, (mkEnts_owner m c n e he).1]
  rw [List.filter_append, List.filter_append, h2, h2,
    List.filter_eq_nil_iff.mpr fun e he => by simpa [ownedBy] using h1 e he]
  rfl

/-- — and the callback of the previous stop, when it finally runs, touches no registry any more: the new run keeps
all its handlers, switch handlers, delays and devices. -/
theorem late_stop_callback_harmless (st st' : St) (m : Nat) (hc : (st.modes m).cleanupPending = false)
    (h : step st (.stoppedCb m) = some st') : st'.bus = st.bus ∧ st'.sw = st.sw ∧ st'.dl = st.dl := by
  cases step_stoppedCb h
  simp [cbCore, cleanup, hc]

/-- a restart accepted between `_stopped` and `_mode_stopped_callback`: the restarted mode is active and has its own handlers -/
example :
    (let s := run (init exCfg) [.start 1 none false true, .started 1, .startedCb 1, .stop 1, .stopped 1,
        .start 1 none false true, .stoppedCb 1, .started 1, .startedCb 1]
     ((s.modes 1).active, (s.bus.filter (fun e => e.owner == 1 && e.cls == .own)).length)) = (true, 2) := by
  decide

/-- a queue event keyed by mode 1's light_player (0) and show_player (1) is held open; the mode stops during the hold;
the entries of the snapshot are called afterwards: nothing is recorded.  Before the stop the same calls record two
entries, a repeated play records nothing new, and the stop clears them. -/
example :
    (let s1 := run (init exCfg) [.start 1 none false true, .started 1, .startedCb 1, .cfgPlay 1 0, .cfgPlay 1 1, .cfgPlay 1 0,
        .cfgPlay 1 100]
     let s2 := run s1 [.stop 1, .stopped 1, .stoppedCb 1, .cfgPlay 1 0, .cfgPlay 1 1]
     (s1.fx.length, s2.fx.length, s2.bus.length)) = (2, 0, 0) := by
  decide

/-- a conditional light_player entry (10) is true when the mode starts (played in `start()`), becomes false (removed) and
true again; the stop clears it -/
example :
    (let s1 := run (init exCfg) [.start 1 none false true, .cfgSub 1 10 true]
     let s2 := run s1 [.started 1, .startedCb 1, .cfgSub 1 10 false]
     let s3 := run s2 [.cfgSub 1 10 true, .cfgSub 1 110 true, .stop 1, .stopped 1]
     (s1.fx.length, s2.fx.length, s3.fx.length, (step s3 (.cfgSub 1 10 true)).isSome,
      (run (init exCfg) [.start 1 none false true, .started 1, .cfgSub 1 10 true]).fx.length)) = (1, 0, 0, false, 1) := by
  decide

/-- a timer of mode 1 is started (periodic task 5) and paused (delay 6); the mode stops inside the pause: both are gone
after the cleanup, and the device cannot schedule anything afterwards -/
example :
    (let s1 := run (init exCfg) [.start 1 none false true, .addTm 1 5, .started 1, .startedCb 1, .remTm 1 5, .addTm 1 6]
     let s2 := run s1 [.stop 1, .stopped 1, .addTm 1 7, .stoppedCb 1]
     (s1.tm.length, (run s1 [.stop 1, .stopped 1, .addTm 1 7]).tm.length, s2.tm.length,
      (step s2 (.addTm 1 8)).isSome, (step s1 (.fireTm 1 6)).isSome)) = (1, 2, 0, false, true) := by
  decide

/-- the turn ends while mode 1 is still starting: the one-shot handler is registered, and gone once the mode has
started; the stop it requests is an ordinary stop -/
example :
    (let s1 := run (init exCfg) [.start 1 none false true, .turnEnd 1, .turnEnd 1]
     let s2 := run s1 [.started 1, .stop 1, .startedCb 1, .stopped 1, .stoppedCb 1]
     (cnt s1.bus 1 .turn false, cnt s2.bus 1 .turn false, s2.bus.length, (s2.modes 1).active)) = (2, 0, 0, false) := by
  decide

/-- modes 1 (200) and 3 (300) are up; start requests for the running mode 1 with priorities above mode 3 (direct and
through the start event), also while it is stopping, are refused: priority and order stay; the same request after the
stop is accepted and mode 1 is then sorted in front -/
example :
    (let s1 := run (init exCfg) [.start 1 none false true, .start 3 none false true, .started 1, .started 3,
        .start 1 (some 500) false true, .start 1 (some 301) true true, .stop 1, .start 1 (some 400) false true]
     let s2 := run s1 [.stopped 1, .start 1 (some 400) false true, .started 1]
     (s1.act, (s1.modes 1).prio, s1.log.length, s2.act, (s2.modes 1).prio)) = ([3, 1], 200, 8, [1, 3], 400) := by
  decide

/-- a delay of mode 1 is pending when the stop is accepted: it cannot fire while the stopping queue is held; a control
event of mode 1 (delayed form, id 21) called after the stop from a queue event's snapshot schedules nothing, the same
call while the mode ran did (id 20, cancelled by the stop) -/
example :
    (let s1 := run (init exCfg) [.start 1 none false true, .started 1, .addDl 1 9, .ctlCall 1 (some 20)]
     let s2 := run s1 [.stop 1]
     let s3 := run s2 [.stopped 1, .stoppedCb 1, .ctlCall 1 (some 21), .ctlCall 1 none]
     (s1.dl.length, s2.dl.length, (step s2 (.fireDl 1 9)).isSome, s3.dl.length, (step s1 (.fireDl 1 20)).isSome)) =
      (2, 0, false, 0, true) := by
  decide

end MpfVerif.C07
