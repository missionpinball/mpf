import MpfVerif.Lemmas.Delay
import MpfVerif.Lemmas.DelayGen
import MpfVerif.Lemmas.ClockGen
import MpfVerif.Lemmas.TimerDevice
/-!
# C13 — Delays and periodic timers fire exactly when promised, or never

Property theorems about `Model/Delay.lean` (DelayManager + PeriodicTask), the model that `harness/corr/C13.py` runs
against the real code.  All statements are over **every** program table `P` (what callbacks do: re-add, remove,
run_now, clear, start/cancel periodic tasks …), **every** op sequence (`Op.cmd` calls at any instant, `Op.to` time steps,
`Op.fire`/`Op.pfire` = the loop's choice among due timers, i.e. every schedule) and every reachable state.
The Timer device (`timer.py`) has its own model (`Model/TimerDevice.lean`, second half of this file); `Mode.stop` /
`_finish_stop` are mode-level operations of the delay model (`MOp`, `never_after_mode_stop`).
-/
namespace MpfVerif.C13
open MpfVerif.Delay

/-- **fires_once_at_due.**  In every run from the initial state, for every program table (callbacks may re-add, remove,
clear, `run_now`, raise, and *block the loop* for any time) and every schedule: a callback the loop fires (`fired hd t`)
never runs before the due tick of its handle (`hd.due` = time of the `add`/`reset` + ms; a negative ms is due at once),
and runs at **exactly** that tick when no callback of the run blocked the loop (`blocked d` is the observation of a
callback that took `d` ticks); that handle with exactly this name, callback and argument was scheduled earlier in the run
(`sched hd`), and no handle id fires twice.  How late a blocked loop may deliver is bounded by `late_only_while_blocked`. -/
theorem fires_once_at_due (P : Nat → List Cmd) (ops : List Op) (s : St) (tr : List Obs)
    (h : run P init ops = some (s, tr)) :
    (∀ hd t, .fired hd t ∈ tr → hd.due ≤ t ∧ ((∀ d, Obs.blocked d ∉ tr) → t = hd.due) ∧ .sched hd ∈ tr) ∧
    (firedHids tr).Nodup := by
  have g : Hist init tr s := run_hist P ops init (s, tr) init_inv h
  refine ⟨fun hd t hh => ?_, g.nodup⟩
  obtain ⟨c1, -, c3, c4⟩ := g.fired hd t hh
  refine ⟨c3, fun hb => ?_, c1.resolve_left (by simp [init])⟩
  have := blockedSum_zero hb
  have : init.slack = 0 := rfl
  omega

/-- **late_only_while_blocked** (late delivery shifts nothing else).  In every reachable state `slack` is the time for which
callbacks have blocked the loop since it was last idle (`to` resets it, `block d` adds `d`, nothing else changes it).
(a) A delay the loop fires in that state is late by at most `slack`, and so is a periodic tick; with `slack = 0` both are
exact.  (b) The loop never sleeps past anything that is due: a `to t` step is impossible while a live delay or a running
periodic task is due before `t` — so a late callback is delivered in the first loop iteration at or after its due tick —
and (c) lateness never moves a deadline: `due` of every other pending handle is what `add` computed (handles are
immutable in the model; `fires_once_at_due` shows each fires against its own `due`). -/
theorem late_only_while_blocked (P : Nat → List Cmd) (ops : List Op) (s : St) (tr : List Obs)
    (h : run P init ops = some (s, tr)) :
    (∀ hid r, step P s (.fire hid) = some r → ∀ hd t, .fired hd t ∈ r.2 → hd.due ≤ t ∧ t ≤ hd.due + s.slack) ∧
    (∀ pid r, step P s (.pfire pid) = some r → ∀ k n t, .tick k n t ∈ r.2 →
        ∃ p ∈ r.1.pers, p.pid = k ∧ p.t0 + n * p.interval ≤ t ∧ t ≤ p.t0 + n * p.interval + s.slack) ∧
    (∀ t r, step P s (.to t) = some r → (∀ hd ∈ s.live, t ≤ hd.due) ∧
        (∀ p ∈ s.pers, p.canceled = false → t ≤ p.t0 + (p.count + 1) * p.interval) ∧ r.1.slack = 0) := by
  have i : Inv s := run_inv P ops init (s, tr) init_inv h
  refine ⟨?_, ?_, ?_⟩
  · intro hid r hr hd t hf
    obtain ⟨h0, hm, -, hdue, rfl⟩ := step_fire hr
    rcases List.mem_cons.mp hf with e | e
    · injection e with e1 e2; subst e1 e2
      exact ⟨hdue, i.due_ge _ hm⟩
    · exact nomatch exec_quiet P fuel _ _ _ e
  · intro pid r hr k n t hf
    obtain ⟨p, hm, rfl, hc, hdue, rfl⟩ := step_pfire hr
    rcases List.mem_cons.mp hf with e | e
    · injection e with e1 e2 e3; subst e1 e2 e3
      have g := pfire_hist i hm hc hdue
      obtain ⟨-, p1, hp1, a1, a2, -⟩ := g.tick _ _ _ (List.mem_singleton.mpr rfl)
      obtain ⟨p', hp', b1, b2, b3, -⟩ := (exec_hist P fuel _ (P p.cb) g.inv).pers_to p1 hp1
      simp only [blockedSum] at a2
      exact ⟨p', hp', b1.trans a1, by rw [b2, b3]; omega⟩
    · exact nomatch exec_quiet P fuel _ _ _ e
  · intro t r hr
    obtain ⟨rfl, -, c2, c3⟩ := step_to hr
    refine ⟨c2, fun p hp hc => ?_, rfl⟩
    have := c3 p hp hc
    have := i.last_eq p hp
    simp only [Per.due] at *
    rw [Nat.succ_mul]; omega

/-- **never_after_cancel.**  If anywhere in a run a handle was cancelled (`remove`, replacement by `add`/`reset` under
the same name, `clear`, `run_now` — each emits `cancel hid` for the handle it unschedules), then no continuation of that
run, whatever it does, fires that handle.  (Within one step a `fired` observation is always the first one, so a firing
cannot follow a cancel inside the same step either.)  The remaining way of the property's text — *its owning mode stops
first* — is `never_after_mode_stop` below: `Mode.stop()` and `_finish_stop()` are `clear`s at mode-level operations. -/
theorem never_after_cancel (P : Nat → List Cmd) (ops1 ops2 : List Op) (s0 s1 s2 : St) (tr1 tr2 : List Obs) (hid : Nat)
    (i : Inv s0) (h1 : run P s0 ops1 = some (s1, tr1)) (hc : .cancel hid ∈ tr1)
    (h2 : run P s1 ops2 = some (s2, tr2)) : ∀ hd t, .fired hd t ∈ tr2 → hd.hid ≠ hid := by
  intro hd t hf e
  have g1 := run_hist P ops1 s0 (s1, tr1) i h1
  have g2 := run_hist P ops2 s1 (s2, tr2) g1.inv h2
  exact g2.fired_alive hf (e ▸ g1.cancel_dead hid hc)

/-- **never_after_mode_stop** (`never_after_cancel` for "its owning mode stops first"; `Mode.stop` → `delay.clear()`,
`_finish_stop` → `delay.clear()` are operations of the model: `MOp.stop` / `MOp.finish`).  Take any history `pre` of a running
mode's delay manager (calls from anywhere, time, firings, blocked loops — also further `stop`s, which do nothing), then
`Mode.stop()`, then any history `hold` while a handler **holds the `mode_<name>_stopping` queue** (time passes, handlers
and callbacks add / reset / run_now on the mode's manager, the loop fires what comes due, `stop()` is called again …), then
the release of the queue (`_stopped` / `_finish_stop`), then any history `post`.  Then
(a) no delay that was pending when `stop()` was called ever fires — not while the queue is held, not afterwards;
(b) no delay added while the mode was stopping and still pending at the release ever fires afterwards;
(c) right after `stop()` and right after the release the manager holds nothing (`check()` is false for every name), and no
    time passes in either;
(d) the whole history is one run of the model (`mflat`), so every other theorem of this file applies to it: in particular a
    delay added during the hold fires at its due tick exactly once, or is cancelled by the release. -/
theorem never_after_mode_stop (P : Nat → List Cmd) (pre hold post : List MOp) (s1 s2 s3 s4 s5 : St)
    (tr1 o1 tr2 o2 tr3 : List Obs) (hpre : mphase 0 pre = 0) (hhold : mphase 1 hold = 1)
    (h1 : mrun P init 0 pre = some (s1, tr1)) (h2 : mrun P s1 0 [.stop] = some (s2, o1))
    (h3 : mrun P s2 1 hold = some (s3, tr2)) (h4 : mrun P s3 1 [.finish] = some (s4, o2))
    (h5 : mrun P s4 2 post = some (s5, tr3)) :
    (∀ h ∈ s1.live, ∀ hd t, .fired hd t ∈ tr2 ++ o2 ++ tr3 → hd.hid ≠ h.hid) ∧
    (∀ h ∈ s3.live, ∀ hd t, .fired hd t ∈ tr3 → hd.hid ≠ h.hid) ∧
    (s2.live = [] ∧ s2.delays = [] ∧ s2.now = s1.now ∧ s4.live = [] ∧ s4.delays = [] ∧ s4.now = s3.now ∧
      (∀ n, (stepCmd P s2 (.check n)).2.1 = [.checked n false]) ∧
      (∀ n, (stepCmd P s4 (.check n)).2.1 = [.checked n false])) ∧
    mrun P init 0 (pre ++ [.stop] ++ hold ++ [.finish] ++ post) = some (s5, tr1 ++ o1 ++ tr2 ++ o2 ++ tr3) := by
  -- `stop` in phase 0 and `finish` in phase 1 are `delay.clear()`: `mflat` gives `[.cmd .clear]` for both
  have i1 : Inv s1 := run_inv P _ init (s1, tr1) init_inv h1
  have i3 : Inv s3 := run_inv P _ s2 (s3, tr2) (run_inv P _ s1 (s2, o1) i1 h2) h3
  obtain ⟨c1, l2, d2, n2⟩ := clear_step P s1 i1 (s2, o1) h2
  obtain ⟨c3, l4, d4, n4⟩ := clear_step P s3 i3 (s4, o2) h4
  have h345 := run_append P _ _ s2 s3 s5 tr2 (o2 ++ tr3) h3 (run_append P _ _ s3 s4 s5 o2 tr3 h4 h5)
  refine ⟨fun h hh hd t hf => ?_, fun h hh hd t hf => ?_, ⟨l2, d2, n2, l4, d4, n4, fun n => ?_, fun n => ?_⟩, ?_⟩
  · exact never_after_cancel P _ _ s1 s2 s5 o1 (tr2 ++ (o2 ++ tr3)) h.hid i1 h2 (c1 h hh) h345 hd t
      (by simpa [List.append_assoc] using hf)
  · exact never_after_cancel P _ _ s3 s4 s5 o2 tr3 h.hid i3 h4 (c3 h hh) h5 hd t hf
  · simp [stepCmd, show s2.delays = [] from d2]
  · simp [stepCmd, show s4.delays = [] from d4]
  · have f1 : mflat 0 (pre ++ [MOp.stop] ++ hold ++ [MOp.finish] ++ post) =
        mflat 0 pre ++ (mflat 0 [.stop] ++ (mflat 1 hold ++ (mflat 1 [.finish] ++ mflat 2 post))) := by
      simp only [List.append_assoc]
      rw [mflat_append pre, hpre]
      show mflat 0 pre ++ (.cmd .clear :: mflat 1 (hold ++ ([MOp.finish] ++ post))) = _
      rw [mflat_append hold, hhold]
      rfl
    rw [mrun, f1]
    simpa only [List.append_assoc] using run_append P _ _ init s1 s5 tr1 _ h1 (run_append P _ _ s1 s2 s5 o1 _ h2 h345)

/-- non-vacuity of `never_after_mode_stop`: delay 0 (2 ticks) is pending when the mode stops; the stopping handler adds delay
1 (1 tick) and delay 2 (4 ticks) and holds the queue for 2 ticks: delay 1 fires inside the hold (the mode has not stopped
yet), the release kills delay 2; neither 0 nor 2 ever fires, and firing them is not even enabled. -/
example :
    (mrun (fun _ => []) init 0 [.op (.cmd (.add 2 0 0 1)), .op (.to 1), .stop, .op (.cmd (.add 1 1 1 5)),
      .op (.cmd (.add 4 2 1 6)), .stop, .op (.to 2), .op (.fire 1), .op (.to 3), .finish, .op (.to 9)]).map
        (fun r => (r.2.filterMap showObs, r.1.live, r.1.delays)) = some (["F 1 1 5 2"], [], []) ∧
    mphase 0 [.op (.cmd (.add 2 0 0 1)), .op (.to 1)] = 0 ∧ mphase 1 [.op (.cmd (.add 1 1 1 5)), .stop, .op (.to 2)] = 1 ∧
    mrun (fun _ => []) init 0 [.op (.cmd (.add 2 0 0 1)), .op (.to 1), .stop, .op (.to 2), .op (.fire 0)] = none := by
  decide +kernel

/-- What the cancelling calls cancel, in terms of *names*: after `remove n` no live handle carries name `n`; after
`clear` there is no live handle of this manager at all; after `add`/`reset` under name `n` the only live handle named `n`
is the new one.  (With `never_after_cancel`: the callback scheduled earlier under that name never runs.) -/
theorem cancel_by_name (P : Nat → List Cmd) (s : St) (i : Inv s) (n : Nat) :
    (∀ h ∈ (stepCmd P s (.remove n)).1.live, h.name ≠ n) ∧ (stepCmd P s .clear).1.live = [] ∧
    (∀ ms cb a, ∀ h ∈ (stepCmd P s (.add ms n cb a)).1.live, h.name = n → h.hid = (popName s n).1.nextId) ∧
    (∀ ms cb a, ∀ h ∈ (stepCmd P s (.reset ms n cb a)).1.live, h.name = n → s.nextId ≤ h.hid) := by
  have g := popName_hist s n i
  have key : ∀ ms cb a, ∀ h ∈ (stepCmd P s (.add ms n cb a)).1.live, h.name = n → h.hid = (popName s n).1.nextId := by
    intro ms cb a h hh e
    have hh' : h ∈ (popName s n).1.live ++ [⟨(popName s n).1.nextId, n, cb, a, (popName s n).1.now + ms⟩] := hh
    rcases List.mem_append.mp hh' with c | c
    · exact absurd e (popName_noname s n _ (g.inv.live_entry h c))
    · rw [List.mem_singleton.mp c]
  refine ⟨fun h hh e => popName_noname s n _ (g.inv.live_entry h hh) e, ?_, key, fun ms cb a h hh e => ?_⟩
  · show (doClear s).1.live = []
    rw [doClear_eq i]
  · rw [stepCmd_reset_eq_add] at hh
    rw [key ms cb a h hh e]
    exact g.next_le

/-- **fires_unless_cancelled** ("exactly once … unless removed/replaced"): at the end of every run every handle that was
ever scheduled has fired, or was cancelled, or is still pending and *not overdue* beyond the time for which the loop is
blocked right now (`s.now ≤ h.due + s.slack`; `slack = 0` whenever the loop has been idle since) — the loop cannot have
slept past its due tick without it firing (`late_only_while_blocked` (b)). -/
theorem fires_unless_cancelled (P : Nat → List Cmd) (ops : List Op) (s : St) (tr : List Obs)
    (h : run P init ops = some (s, tr)) :
    ∀ hd, .sched hd ∈ tr → (hd ∈ s.live ∧ s.now ≤ hd.due + s.slack) ∨ .cancel hd.hid ∈ tr ∨ hd.hid ∈ firedHids tr := by
  intro hd hs
  have g := run_hist P ops init (s, tr) init_inv h
  exact (g.acc hd (Or.inr hs)).imp_left fun a => ⟨a, g.inv.due_ge hd a⟩

/-- **check_truthful.**  In every reachable state `check(n)` answers true iff a live handle named `n` exists, i.e. iff
a callback scheduled under that name is actually going to be run by the loop. -/
theorem check_truthful (P : Nat → List Cmd) (ops : List Op) (s : St) (tr : List Obs) (n : Nat)
    (h : run P init ops = some (s, tr)) :
    (stepCmd P s (.check n)).2.1 = [.checked n (decide (∃ hd ∈ s.live, hd.name = n))] := by
  have i : Inv s := run_inv P ops init (s, tr) init_inv h
  simp only [stepCmd]
  congr 2
  rw [Bool.eq_iff_iff]
  simp only [List.any_eq_true, beq_iff_eq, decide_eq_true_eq]
  constructor
  · rintro ⟨e, he, hn⟩
    obtain ⟨hd, hh, e1⟩ := i.entry_live e he
    exact ⟨hd, hh, by rw [← hn, ← e1]; rfl⟩
  · rintro ⟨hd, hh, hn⟩
    exact ⟨entryOf hd, i.live_entry hd hh, hn⟩

/-- **run_now_same_args_and_cancels.**  In every reachable state with a live handle `hd` named `n`, `run_now(n)` calls
exactly `hd`'s callback with `hd`'s argument now (the observation and the program pushed on the agenda), unschedules
`hd` (it is dead afterwards: it will never fire) and leaves no live handle under that name.  (`endTry` marks the end of
the `try … except KeyError` that `run_now` has around the callback: a KeyError raised by the callback's program unwinds
to it and is swallowed — `raising_callbacks_in_source`.) -/
theorem run_now_same_args_and_cancels (P : Nat → List Cmd) (ops : List Op) (s : St) (tr : List Obs) (n : Nat)
    (hd : Handle) (h : run P init ops = some (s, tr)) (hl : hd ∈ s.live) (hn : hd.name = n) :
    .ranNow (entryOf hd) s.now ∈ (stepCmd P s (.runNow n)).2.1 ∧ (stepCmd P s (.runNow n)).2.2 = P hd.cb ++ [.endTry] ∧
    Dead (stepCmd P s (.runNow n)).1 hd.hid ∧ ∀ x ∈ (stepCmd P s (.runNow n)).1.live, x.name ≠ n := by
  have i : Inv s := run_inv P ops init (s, tr) init_inv h
  have hf : s.delays.find? (fun e => e.name == n) = some (entryOf hd) := by
    have := find_of_mem Entry.name i.names (i.live_entry hd hl)
    rwa [show (entryOf hd).name = n from hn] at this
  have hs : stepCmd P s (.runNow n) =
      ((popName s n).1, (popName s n).2 ++ [.ranNow (entryOf hd) s.now], P hd.cb ++ [.endTry]) := by
    simp [stepCmd, St.entry?, hf, entryOf]
  rw [hs]
  have g := popName_hist s n i
  exact ⟨by simp, rfl, g.cancel_dead _ (by rw [popName_some hf]; simp [entryOf]),
    fun x hx e => popName_noname s n _ (g.inv.live_entry x hx) e⟩

/-- **periodic_no_drift** (over arbitrary late deliveries).  In every run — callbacks may block the loop for any time, so
ticks may be delivered late — the n-th callback of a periodic task (`tick pid n t`; `n` is the task's own running count,
starting at 1) is never before `t0 + n * interval`, where `t0`/`interval` are the creation time and interval of the
(unique, see `Inv.pids`) task with that id, and is at **exactly** that instant when nothing blocked the loop in the run.
Lateness is not carried forward: the (n+1)-th tick is enabled at `t0 + (n+1) * interval` whatever the time the n-th one
ran (`reachable_periodic_schedule_is_absolute`), missed ticks are delivered back to back and the loop cannot sleep before
the count has caught up (`late_only_while_blocked` (b)). -/
theorem periodic_no_drift (P : Nat → List Cmd) (ops : List Op) (s : St) (tr : List Obs)
    (h : run P init ops = some (s, tr)) : ∀ pid n t, .tick pid n t ∈ tr →
      ∃ p ∈ s.pers, p.pid = pid ∧ p.t0 + n * p.interval ≤ t ∧
        ((∀ d, Obs.blocked d ∉ tr) → t = p.t0 + n * p.interval) ∧ 1 ≤ n ∧ n ≤ p.count := by
  intro pid n t hh
  have g : Hist init tr s := run_hist P ops init (s, tr) init_inv h
  obtain ⟨-, p, hp, a1, a2, a3⟩ := g.tick pid n t hh
  refine ⟨p, hp, a1, a2.1, fun hb => ?_, a3⟩
  have := blockedSum_zero hb
  have : init.slack = 0 := rfl
  omega

/-- **reachable_periodic_schedule_is_absolute.**  In every reachable state, whatever lateness there has been, the next
callback of a periodic task that has made `count` callbacks is due at exactly `t0 + (count + 1) * interval`: the loop may
run it (`pfire`) iff it is not cancelled and that instant has come. -/
theorem reachable_periodic_schedule_is_absolute (P : Nat → List Cmd) (ops : List Op) (s : St) (tr : List Obs)
    (h : run P init ops = some (s, tr)) : ∀ p ∈ s.pers, p.due = p.t0 + (p.count + 1) * p.interval ∧
      ((step P s (.pfire p.pid)).isSome = true ↔ (p.canceled = false ∧ p.t0 + (p.count + 1) * p.interval ≤ s.now)) := by
  have i : Inv s := run_inv P ops init (s, tr) init_inv h
  intro p hp
  have hl := i.last_eq p hp
  have hd : p.due = p.t0 + (p.count + 1) * p.interval := by simp only [Per.due]; rw [Nat.succ_mul]; omega
  refine ⟨hd, ?_⟩
  simp only [step, find_of_mem Per.pid i.pids hp]
  rw [← hd]
  cases hc : p.canceled <;> simp

/-- **no_tick_after_cancel** (`no_tick_unless_running` for clock intervals): once `pcancel pid` was executed on an
existing task, no continuation of the run makes that task tick again. -/
theorem no_tick_after_cancel (P : Nat → List Cmd) (ops : List Op) (s0 s : St) (tr : List Obs) (pid : Nat) (i : Inv s0)
    (hp : pid < s0.pers.length) (h : run P (stepCmd P s0 (.pcancel pid)).1 ops = some (s, tr)) :
    ∀ n t, .tick pid n t ∉ tr := by
  intro n t hm
  have g := run_hist P ops _ (s, tr) (pcancel_hist s0 pid i).inv h
  exact (g.tick pid n t hm).1 (pcancel_pdead s0 pid hp)

/-! ## the hand model is what `mpf/core/delays.py` says (translated source, regenerated on every check) -/

open MpfVerif.Py in
/-- the generated program of a DelayManager command and the arguments it is called with (`msv` is the `ms` argument as the
caller wrote it: an int or a float, any sign; `anon`: `add` without a name, the name comes from `uuid4`) -/
def srcOf (N : Names) (msv : PyVal) (anon : Bool) : Cmd → Option ((List Py.DSt ⊕ List Py.DTop) × List (String × PyVal))
  | .add _ n cb a =>
    some (.inl Gen.DelayOps.add, if anon then [("ms", msv), ("callback", .int cb), ("kwargs", .int a)]
                                  else [("ms", msv), ("callback", .int cb), ("name", N.nm n), ("kwargs", .int a)])
  | .addIf _ n cb a =>
    some (.inl Gen.DelayOps.add_if_doesnt_exist, [("ms", msv), ("callback", .int cb), ("name", N.nm n), ("kwargs", .int a)])
  | .reset _ n cb a =>
    some (.inl Gen.DelayOps.reset, [("ms", msv), ("callback", .int cb), ("name", N.nm n), ("kwargs", .int a)])
  | .remove n => some (.inl Gen.DelayOps.remove, [("name", N.nm n)])
  | .clear => some (.inr Gen.DelayOps.clear, [])
  | .runNow n => some (.inl Gen.DelayOps.run_now, [("name", N.nm n)])
  | .check n => some (.inl Gen.DelayOps.check, [("delay", N.nm n)])
  | _ => none

/-- the delay of the command is what the loop makes of the `ms` argument (µs; negative = now; see `usOf`) -/
def msOk (msv : MpfVerif.Py.PyVal) : Cmd → Prop
  | .add d _ _ _ => usOf msv = some d
  | .addIf d _ _ _ => usOf msv = some d
  | .reset d _ _ _ => usOf msv = some d
  | _ => True

/-- the fresh name `uuid4` answers is the name the anonymous `add` is modelled with -/
def freshOk (N : Names) (fr : MpfVerif.Py.PyVal) (anon : Bool) : Cmd → Prop
  | .add _ n _ _ => anon = true → fr = N.nm n
  | _ => True

open MpfVerif.Py in
def runSrc (c : Ctx) (ora : DOracle) (H : Dict) : (List Py.DSt ⊕ List Py.DTop) → List (String × PyVal) →
    Dict × List Eff × Except Err PyVal
  | .inl p, args => callD c ora H p args
  | .inr p, args => callT c ora H p args

open MpfVerif.Py in
/-- **delay_ops_refine_source.**  For every reachable-style state (`Inv`: the dict and the loop's live handles are coupled —
proved for all reachable states by `run_inv`), every command `add / add_if_doesnt_exist / reset / remove / clear / run_now /
check` on any name, callback, kwargs and any `ms` that is an int or a float (negative, zero, fractional), named or
anonymous: running the **translated source** of the method on the dict of the state and folding its calls on the clock
(`schedule_once`, `unschedule`), on the stored callback and on `uuid4` gives exactly what the hand model's `stepCmd`
computes — the same dict, the same live handles with the same due times, the same next handle id, the same handles
scheduled and cancelled in the same order, the same callbacks called with the same kwargs, and no call the model has no
meaning for.  Hence every theorem of this file about `stepCmd`/`run` is a theorem about `mpf/core/delays.py` as it is now.
What a called callback answers (a value, or any exception) is arbitrary. -/
theorem delay_ops_refine_source (P : Nat → List Cmd) (N : Names) (c : Ctx) (ora : DOracle) (s : Delay.St) (i : Inv s)
    (fr msv : PyVal) (anon : Bool) (ho : OraOk ora s.nextId fr) (cmd : Cmd) (prog : List Py.DSt ⊕ List Py.DTop)
    (args : List (String × PyVal)) (hsrc : srcOf N msv anon cmd = some (prog, args)) (hms : msOk msv cmd)
    (hfr : freshOk N fr anon cmd) :
    gen N s (runSrc c ora (heapOf N s.delays) prog args) = hand N (stepCmd P s cmd) := by
  cases cmd <;> simp only [srcOf, Option.some.injEq, Prod.mk.injEq, reduceCtorEq] at hsrc <;> obtain ⟨rfl, rfl⟩ := hsrc
  case add d n cb a => exact add_refines P N c ora s i fr ho msv d n cb a hms anon hfr
  case addIf d n cb a => exact add_if_refines P N c ora s i fr ho msv d n cb a hms
  case reset d n cb a => exact reset_refines P N c ora s i fr ho msv d n cb a hms
  case remove n => exact remove_refines P N c ora s i fr ho n
  case clear => exact clear_refines P N c ora s i fr ho
  case runNow n => exact (run_now_refines P N c ora s i fr ho n).1
  case check n => exact (check_refines P N c ora s n).1

open MpfVerif.Py in
/-- **check_and_callbacks_refine_source.**  (a) The translated `check(name)` returns exactly the model's answer.  (b) What
`run_now` pushes on the model's agenda is the program of exactly the callbacks the translated `run_now` called, each
followed by the `endTry` marker.  (c) The translated `_process_delay_callback(name, callback, **kwargs)` — what the loop
runs when a handle is due — drops the entry under the name, calls the stored callback with the stored kwargs and makes no
clock call: the `fire` step of the model. -/
theorem check_and_callbacks_refine_source (P : Nat → List Cmd) (N : Names) (c : Ctx) (ora : DOracle) (s : Delay.St) (i : Inv s)
    (fr : PyVal) (ho : OraOk ora s.nextId fr) (n : Nat) :
    (callD c ora (heapOf N s.delays) Gen.DelayOps.check [("delay", N.nm n)]).2.2 =
      .ok (.bool (s.delays.any (fun e => e.name == n))) ∧
    (stepCmd P s (.runNow n)).2.2 =
      pushedRunNow P (gen N s (callD c ora (heapOf N s.delays) Gen.DelayOps.run_now [("name", N.nm n)])).calls ∧
    (∀ h ∈ s.live,
      let r := gen N s (callD c ora (heapOf N s.delays) Gen.DelayOps.p_process_delay_callback
        [("name", N.nm h.name), ("callback", .int h.cb), ("kwargs", .int h.arg)])
      r.dict = heapOf N (s.delays.filter (fun e => e.name != h.name)) ∧ r.live = s.live ∧ r.nextId = s.nextId ∧
      r.obs = [] ∧ r.calls = [(h.cb, h.arg)] ∧ r.unknown = false) :=
  ⟨(check_refines P N c ora s n).2, (run_now_refines P N c ora s i fr ho n).2, fun h hl => pdc_refines N c ora s i fr ho h hl⟩

open MpfVerif.Py in
/-- **raising_callbacks_in_source** (a callback that raises).  In the translated source, for a pending delay: `run_now`
returns normally when the callback returns or raises `KeyError` (its `except KeyError` swallows it — the model's
`raise true` unwinds to the `endTry` marker) and passes every other exception on; the entry is gone and its handle
unscheduled *before* the callback runs in all three cases.  `_process_delay_callback` passes every exception on to the
loop, after the entry was dropped, and then does not run the event queue. -/
theorem raising_callbacks_in_source (N : Names) (c : Ctx) (ora : DOracle) (s : Delay.St) (i : Inv s) (fr : PyVal)
    (ho : OraOk ora s.nextId fr) (e : Entry) (n : Nat) (hf : s.delays.find? (fun e => e.name == n) = some e) (x : Err) :
    (ora (callEff e.cb e.arg) = .error x →
      (callD c ora (heapOf N s.delays) Gen.DelayOps.run_now [("name", N.nm n)]) =
        (heapOf N (popD s.delays n), popE s.delays n ++ [callEff e.cb e.arg],
          if x = "KeyError" then .ok .none else .error x)) ∧
    (ora (callEff e.cb e.arg) = .error x →
      (callD c ora (heapOf N s.delays) Gen.DelayOps.p_process_delay_callback
        [("name", N.nm n), ("callback", .int e.cb), ("kwargs", .int e.arg)]) =
        (heapOf N (popD s.delays n), [callEff e.cb e.arg], .error x)) := by
  constructor
  · intro hr
    have h1 := run_now_run N c (argLocals [("name", N.nm n)]) i.names ho n (by simp [argLocals_apply, List.lookup])
    simp only [hf, hr, swallow] at h1
    rw [callD_eq c ora _ _ _ h1]
    by_cases hx : x = "KeyError" <;> simp [hx, Except.map]
  · intro hr
    have h1 := pdc_run N c (argLocals [("name", N.nm n), ("callback", .int e.cb), ("kwargs", .int e.arg)]) i.names ho
      n e.cb e.arg (by simp [argLocals_apply, List.lookup]) (by simp [argLocals_apply, List.lookup])
      (by simp [argLocals_apply, List.lookup])
    simp only [hr] at h1
    rw [callD_eq c ora _ _ _ h1]
    simp [Except.map]

/-! ## the periodic part of the hand model is what `mpf/core/clock.py` says (translated source, regenerated on every check) -/

open MpfVerif.Py in
/-- **periodic_refines_source.**  `Gen/ClockOps.lean` is `PeriodicTask.__init__/_schedule/_run/cancel/get_next_call_time`
and `ClockBase.schedule_once/schedule_interval/unschedule` of the current source as data (attributes of the task =
interpreter state; `loop.time`, `loop.call_at`, `loop.call_later`, `callable`, `event.cancel` and the call of the stored
callback = logged effects).  In every state `s` of the hand model, with a loop that does not raise and whose `time()` is
`s.now`:
(a) `schedule_interval(cb, iv)` creates exactly the task `doPStart` appends (`_last_call = now`, not cancelled) and asks the
    loop for its first run at `now + iv` = that task's `due`;
(b) `unschedule(x)` is `x.cancel()`, and `PeriodicTask.cancel()` sets `_canceled` and nothing else — `doPCancel`;
(c) for a task that is not cancelled, the model's `pfire` step is: move `last` on by one interval (`bumpPer`), count the
    callback, run the callback's program — and the translated `_run` does the same on the attributes: `_last_call` becomes
    `_last_call + _interval` **without asking `loop.time()`** (no drift: lateness of this run is not carried forward), the
    stored callback is called, and afterwards, on the attributes as the callback left them (`k` arbitrary up to cancelling
    the task: `c2`), the loop is asked for exactly one next run at the *new* `_last_call + _interval` iff the task is not
    cancelled now — `handSchedule` of the model's record, whose `due` has moved by exactly one interval;
(d) `_run` of a task that was cancelled while its handle was in the loop calls nothing and asks nothing of the loop (the
    model's `pfire` is disabled for it); (e) a callback that raises is passed on to the loop and the task is not rescheduled
    (the model ends the case there: `escaped`); (f) `get_next_call_time()` is the model's `due`;
(g) `ClockBase.schedule_once(cb, t)` is `loop.call_later(delay=t, callback=cb)` and returns its handle: the effect
    `clock.schedule_once` that `delay_ops_refine_source` folds is that call. -/
theorem periodic_refines_source (P : Nat → List Cmd) (c : Ctx) (ora : DOracle) (s : Delay.St)
    (ho : ClockOraOk ora s.now) :
    (∀ iv cb : Nat,
      callD c ora [] Gen.ClockOps.schedule_interval [("callback", .int cb), ("timeout", .flt iv)] =
        (taskHeap (newPer s.pers.length iv cb s.now), [callableEff (.int cb), timeEff, callAt (s.now + iv)],
          .ok (.str "obj:PeriodicTask")) ∧
      (doPStart s iv cb).1.pers = s.pers ++ [newPer s.pers.length iv cb s.now] ∧
      (newPer s.pers.length iv cb s.now).due = s.now + iv) ∧
    ((∀ ev H, callD c ora H Gen.ClockOps.unschedule [("event", ev)] = (H, [cancelEff ev], .ok .none)) ∧
     (∀ p, callD c ora (taskHeap p) Gen.ClockOps.cancel [] = (taskHeap { p with canceled := true }, [], .ok .none)) ∧
     (∀ pid, (doPCancel s pid).pers = s.pers.map (fun p => if p.pid == pid then { p with canceled := true } else p))) ∧
    (∀ pid p, s.pers.find? (fun q => q.pid == pid) = some p → p.canceled = false → p.due ≤ s.now →
      step P s (.pfire pid) = some
        ((exec P fuel { s with pers := s.pers.map (fun q => if q.pid == pid then bumpPer q else q) } (P p.cb)).1,
         .tick pid (p.count + 1) s.now ::
          (exec P fuel { s with pers := s.pers.map (fun q => if q.pid == pid then bumpPer q else q) } (P p.cb)).2) ∧
      (bumpPer p).due = p.due + p.interval ∧
      ∀ v k c2, ora (tickEff p.cb) = .ok v → k (taskHeap (bumpPer p)) = taskHeap { bumpPer p with canceled := c2 } →
        callCb c ora k (taskHeap p) Gen.ClockOps.p_run [] =
          (taskHeap { bumpPer p with canceled := c2 },
           tickEff p.cb :: handSchedule { bumpPer p with canceled := c2 }, .ok .none)) ∧
    (∀ p k, p.canceled = true →
      callCb c ora k (taskHeap p) Gen.ClockOps.p_run [] =
        (taskHeap { p with last := p.last + p.interval }, [], .ok .none)) ∧
    (∀ p k x, p.canceled = false → ora (tickEff p.cb) = .error x →
      callCb c ora k (taskHeap p) Gen.ClockOps.p_run [] =
        (taskHeap { p with last := p.last + p.interval }, [tickEff p.cb], .error x)) ∧
    (∀ p, callD c ora (taskHeap p) Gen.ClockOps.get_next_call_time [] = (taskHeap p, [], .ok (.flt p.due))) ∧
    (∀ cb t h, ora (callLater t cb) = .ok h →
      callD c ora [] Gen.ClockOps.schedule_once [("callback", cb), ("timeout", t)] =
        ([], [callableEff cb, callLater t cb], .ok h)) := by
  refine ⟨fun iv cb => ⟨schedule_interval_call c ora ho iv cb _, rfl, rfl⟩,
    ⟨fun ev H => unschedule_call c ora ho ev H, cancel_call c ora, fun _ => rfl⟩, fun pid p hf hc hd => ⟨?_, rfl, ?_⟩,
    fun p k hc => run_canceled c ora p k hc, fun p k x hc hcb => run_raises c ora p k x hc hcb, next_call_time_call c ora,
    fun cb t h hh => schedule_once_call c ora ho cb t h hh⟩
  · simp [step, hf, hc, hd, bumpPer]
  · exact fun v k c2 hcb hk => run_run c ora ho p hc v k c2 hcb hk

/- non-vacuity, computed by running the **translated source**: a task with interval 250000 µs created at 1000000 whose
`_run` is delivered whenever: `_last_call` becomes 1250000 and the next run is asked for at 1500000 — from the attributes
alone; a callback that cancels the task (`k` sets `_canceled`) leaves nothing scheduled; and `execCb` with a callback that
leaves the object alone is the plain interpreter. -/
open MpfVerif.Py in
example :
    let ora : DOracle := fun _ => .ok .none
    let p : Per := ⟨0, 3, 250000, 1000000, 0, 1000000, false⟩
    let cx : Py.Ctx := ⟨fun _ => .none, fun _ => .none⟩
    let r1 := callCb cx ora id (taskHeap p) Gen.ClockOps.p_run []
    let r2 := callCb cx ora (fun H => dictSet H (.str "_canceled") [.bool true]) (taskHeap p) Gen.ClockOps.p_run []
    let r3 := callD cx ora (taskHeap p) Gen.ClockOps.p_run []
    r1.1 = taskHeap (bumpPer p) ∧ r1.2.1 = [tickEff 3, callAt 1500000] ∧
    r2.1 = taskHeap { bumpPer p with canceled := true } ∧ r2.2.1 = [tickEff 3] ∧
    r3.1 = r1.1 ∧ r3.2.1 = r1.2.1 := by decide +kernel

/-- names exist: `n ↦ n + 1` -/
def demoNames : Names := ⟨fun n => .int (n + 1), fun v => (natOf v) - 1, by intro n; simp [natOf],
  by intro n; simp [MpfVerif.Py.PyVal.truthy]; omega⟩

/- non-vacuity, computed by running the **translated source** (not the hand model): on a dict holding delay 7 (handle 3,
callback 2, kwargs 5) `add(-250, cb 4, name 7, kwargs 9)` unschedules handle 3, schedules a new handle with timeout
-0.25 s and stores it; the fold gives one live handle, due *now* (10), named 7.  `Names` exist (`n ↦ n + 1`). -/
open MpfVerif.Py in
example :
    let s : Delay.St := { now := 10, nextId := 4, delays := [⟨7, 3, 2, 5⟩], live := [⟨3, 7, 2, 5, 12⟩] }
    let ora : DOracle := fun e => if e.meth = "schedule_once" then .ok (.int 4) else .ok .none
    let r := gen demoNames s (callD ⟨fun _ => .none, fun _ => .none⟩ ora (heapOf demoNames s.delays) Gen.DelayOps.add
      [("ms", .int (-250)), ("callback", .int 4), ("name", .int 8), ("kwargs", .int 9)])
    r.live = [⟨4, 7, 4, 9, 10⟩] ∧ r.obs = [.cancel 3, .sched ⟨4, 7, 4, 9, 10⟩] ∧ r.nextId = 5 ∧ r.unknown = false ∧
    r.dict = [(.int 8, [.int 4, .int 4, .int 9])] := by decide +kernel

/-- callback 1 re-adds name 0 with callback 2 and runs it at once; callback 2 removes name 1 -/
def demoP : Nat → List Cmd
  | 1 => [.reset 2 0 2 5, .runNow 0]
  | 2 => [.remove 1, .check 1]
  | _ => []

example : (run demoP init [.cmd (.add 2 0 1 1), .cmd (.add 2 1 2 2), .cmd (.add 2 2 0 3), .to 2, .fire 0, .fire 2,
    .cmd (.pstart 2 0), .to 4, .pfire 0, .to 6, .pfire 0, .cmd (.pcancel 0), .to 9]).map (fun r => r.2.filterMap showObs)
    = some ["F 0 1 1 2", "R 0 2 5 2", "C 1 0", "F 2 0 3 2", "T 0 1 4", "T 0 2 6"] := by decide +kernel

/-- time cannot pass a due live handle, and a cancelled handle cannot be fired -/
example : run demoP init [.cmd (.add 2 0 0 1), .to 3] = none ∧
    run demoP init [.cmd (.add 2 0 0 1), .cmd (.remove 0), .to 2, .fire 0] = none := by decide +kernel


/-! # The Timer device (`Model/TimerDevice.lean`)

All statements hold in every state reachable from a freshly loaded timer (`TimerDevice.init`) by any sequence of
start/stop/pause/add/subtract/jump/reset/restart/set_tick_interval/change_tick_interval calls, time steps, **stalls of the
loop of any length** (`Op.stall d`: the clock moves, nothing runs — every later delivery is late), runs of the system timer
and of the pause delay (`Timer.reachable`).  `slack` is the time the loop has been blocked since it was last idle; a run
without stalls has `slack = 0` throughout (`exact_without_stalls`). -/

end MpfVerif.C13

namespace MpfVerif.C13.Timer
open MpfVerif.TimerDevice

/-- reachable states of a timer with configuration `c` and initial tick interval `iv` -/
def reachable (c : Cfg) (iv : Nat) (s : T) : Prop := ∃ ops tr, run c (init c iv) ops = some (s, tr)

theorem reachable_inv {c : Cfg} {iv : Nat} {s : T} (h : reachable c iv s) : Inv c s := by
  obtain ⟨ops, tr, h⟩ := h
  exact run_inv c ops _ (s, tr) (init_inv c iv) h

/-- **no_tick_unless_running.**  (a) Whatever the operation, a `tick` event is only ever posted by a timer that is
running after that operation, carries its current count, and that count is not at/past the end value.  (b) The system
timer (`Op.clock`) produces anything only while the timer is running.  (c) A timer that is not running and has no
timed pause pending (stopped, paused without time, completed) stays silent for ever while only time passes — idle or
stalled loop alike: no event at all, whatever the clock does. -/
theorem no_tick_unless_running (c : Cfg) (iv : Nat) (s : T) (hs : reachable c iv s) :
    (∀ op r, step c s op = some r → ∀ k, (⟨.tick, k⟩ : Obs) ∈ r.2 →
        r.1.running = true ∧ r.1.ticks = k ∧ done c k = false) ∧
    (∀ r, step c s .clock = some r → s.running = true) ∧
    (s.running = false → s.resume = none → ∀ ops r, (∀ op ∈ ops, op = .clock ∨ (∃ t, op = .to t) ∨ ∃ d, op = .stall d) →
        run c s ops = some r → r.2 = [] ∧ r.1.running = false ∧ r.1.resume = none) := by
  have i := reachable_inv hs
  refine ⟨fun op r h k hk => (step_ok c s op r i h).facts.tick k hk, fun r h => ?_, fun hrun hres ops r hops h => ?_⟩
  · obtain ⟨_, -, hr, -⟩ := step_clock h
    exact hr
  · obtain ⟨a1, a2, a3, -⟩ := idle_run c ops s r hrun hops h
    exact ⟨a1, a2, a3.trans hres⟩

/-- **timer_dies_with_mode** (a device-owned delay manager dies with the mode).  When the owning mode stops,
`Mode._finish_stop` removes its devices: `Timer.device_removed_from_mode` = `stop()` (`Op.removed`; the control events are
unregistered, so no further call reaches the timer).  In every reachable state — running, paused with or without a timed
pause pending on the timer's *own* DelayManager, however late the loop is — the removal posts `stopped` and nothing else,
leaves the timer not running with no pause end pending, and from then on, whatever time passes, however the loop stalls and
whatever is still in the loop (the system timer, the pause delay), the timer never posts anything again: the pause delay
cannot run (`resumeFire` is disabled) and the system timer is silent. -/
theorem timer_dies_with_mode (c : Cfg) (iv : Nat) (s : T) (hs : reachable c iv s) (r : T × List Obs)
    (h : step c s .removed = some r) :
    r.2 = [⟨.stopped, s.ticks⟩] ∧ r.1.running = false ∧ r.1.resume = none ∧ step c r.1 .resumeFire = none ∧
    ∀ ops r', (∀ op ∈ ops, op = .clock ∨ (∃ t, op = .to t) ∨ ∃ d, op = .stall d) → run c r.1 ops = some r' →
      r'.2 = [] ∧ r'.1.running = false ∧ r'.1.resume = none ∧ r'.1.ticks = s.ticks := by
  exact removed_silent c s r h

/-- **ticks_one_interval_apart** (with late deliveries).  When the system timer runs (`Op.clock` is enabled), `arm = some a`
where `a + iv` is the instant this run was **due**: it is never early (`a + iv ≤ now`), late by at most the time the loop
has been blocked since it was last idle (`now ≤ a + iv + slack`), hence at exactly `a + iv` when nothing blocked the loop
(`slack = 0`; `exact_without_stalls`).  The schedule is absolute: `a = t0 + cnt * iv` (`t0` = the (re)start, jump or
interval change that created the system timer, `cnt` = its runs since), and if the timer does not reach its end value in
this run the next run is due at exactly `a + iv + iv` **whatever the lateness of this one** (`arm` advances by one interval,
not to `now`): consecutive clock ticks are due exactly `iv` apart, lateness is not carried forward, and ticks missed
during a stall are delivered back to back (`late_ticks_catch_up`).  If the run completes the timer, a
`restart_on_complete` restart creates a fresh schedule at the instant it actually happens. -/
theorem ticks_one_interval_apart (c : Cfg) (iv : Nat) (s : T) (hs : reachable c iv s) (r : T × List Obs)
    (h : step c s .clock = some r) :
    ∃ a, s.arm = some a ∧ a = s.t0 + s.cnt * s.iv ∧ a + s.iv ≤ s.now ∧ s.now ≤ a + s.iv + s.slack ∧
      (s.slack = 0 → s.now = a + s.iv) ∧ r.1.now = s.now ∧ r.1.slack = s.slack ∧
      (done c (bump c s.ticks) = false →
        r.1.running = true ∧ r.1.arm = some (a + s.iv) ∧ r.1.iv = s.iv ∧ r.1.t0 = s.t0 ∧ r.1.cnt = s.cnt + 1) ∧
      (done c (bump c s.ticks) = true → r.1.running = true →
        r.1.arm = some s.now ∧ r.1.t0 = s.now ∧ r.1.cnt = 0) := by
  have i := reachable_inv hs
  obtain ⟨a, ha, hrun, hdue, rfl⟩ := step_clock h
  have hge := i.arm_ge hrun a ha
  refine ⟨a, ha, i.arm_abs a ha, hdue, hge, fun h0 => by omega, ?_⟩
  split
  · rename_i hd
    rcases doComplete_cases c { s with arm := some (a + s.iv), cnt := s.cnt + 1, ticks := bump c s.ticks } with
      ⟨-, e⟩ | ⟨-, -, e⟩ | ⟨-, -, e⟩ <;> rw [e] <;> simp [hd]
  · rename_i hd
    exact ⟨rfl, rfl, fun _ => ⟨hrun, rfl, rfl, rfl, rfl⟩, fun hd' => absurd hd' hd⟩

/-- **late_ticks_catch_up** (the PeriodicTask catch-up rule on the timer device).  In every reachable state of a running
timer the system timer is armed at `a = t0 + cnt * iv` and (a) it can run iff its due instant `a + iv` has come — so
after a stall that covered `k` intervals it can run `k` times at the same instant, each run moving `a` on by one interval
(`ticks_one_interval_apart`), as long as the end value is not reached; (b) the loop cannot go idle (`Op.to t`) past a due
run: `t ≤ a + iv` — missed ticks are all delivered before time passes again; (c) a stall changes nothing but the clock:
no event, same count, same schedule. -/
theorem late_ticks_catch_up (c : Cfg) (iv : Nat) (s : T) (hs : reachable c iv s) (hrun : s.running = true) :
    ∃ a, s.arm = some a ∧ a = s.t0 + s.cnt * s.iv ∧
      ((step c s .clock).isSome = true ↔ a + s.iv ≤ s.now) ∧
      (∀ t r, step c s (.to t) = some r → t ≤ a + s.iv ∧ r.1.slack = 0) ∧
      (∀ d r, step c s (.stall d) = some r → r.2 = [] ∧ r.1 = { s with now := s.now + d, slack := s.slack + d }) := by
  have i := reachable_inv hs
  obtain ⟨a, ha⟩ := i.run_armed hrun
  refine ⟨a, ha, i.arm_abs a ha, ?_, ?_, ?_⟩
  · simp only [step, ha, hrun, true_and]
    by_cases hle : a + s.iv ≤ s.now
    · simp only [hle, if_true]
      constructor
      · intro _; trivial
      · intro _; split <;> rfl
    · simp [hle]
  · intro t r h
    obtain ⟨⟨-, -, c3⟩, _, rfl, -⟩ := step_to h
    have := c3 hrun
    rw [ha] at this
    exact ⟨by simpa using this, rfl⟩
  · intro d r h
    obtain rfl := Option.some.inj h
    exact ⟨rfl, rfl⟩

/-- **exact_without_stalls.**  In a run from the freshly loaded timer in which nothing ever blocks the loop, `slack` is 0 in
the final state: the bounds of `ticks_one_interval_apart` / `pause_resumes_once` collapse to equalities — every clock tick
is at exactly `t0 + (cnt + 1) * iv`, every pause ends at exactly `pause instant + ms`. -/
theorem exact_without_stalls (c : Cfg) (iv : Nat) (ops : List Op) (s : T) (tr : List Obs)
    (hn : ∀ op ∈ ops, ∀ d, op ≠ .stall d) (h : run c (init c iv) ops = some (s, tr)) : s.slack = 0 :=
  run_noStall_slack c ops _ (s, tr) (init_inv c iv) rfl hn h

/-- **timer_completes_iff_end_value** (reachable states include every stall of the loop, i.e. every pattern of late
deliveries).  For every operation: (a) a `complete` event is posted only with the count
at/past the end value; (b) afterwards a running timer is never at/past its end value — reaching it always completes;
(c) the operations that change the count (`add`, `subtract`, `jump`, a clock tick) post `complete` with the new count
whenever the new count is at/past the end value; (d) after `timer_complete` the timer has stopped, or — with
`restart_on_complete` and a start value that is not itself at the end — is running again from the (clipped) start value;
(e) lateness never changes the count: a stall posts nothing and leaves count and `running` as they are, and a late clock
tick (clause for `.clock`: however late, once per missed interval) counts exactly one — so the count reaches the end value
after exactly as many clock ticks as without the stall, and completes there. -/
theorem timer_completes_iff_end_value (c : Cfg) (iv : Nat) (s : T) (hs : reachable c iv s) :
    (∀ op r, step c s op = some r →
        (∀ k, (⟨.complete, k⟩ : Obs) ∈ r.2 → done c k = true) ∧ (r.1.running = true → done c r.1.ticks = false)) ∧
    (∀ v r, step c s (.add v) = some r → done c (clip c (s.ticks + v)) = true →
        (⟨.complete, clip c (s.ticks + v)⟩ : Obs) ∈ r.2) ∧
    (∀ v r, step c s (.sub v) = some r → done c (s.ticks - v) = true → (⟨.complete, s.ticks - v⟩ : Obs) ∈ r.2) ∧
    (∀ v r, step c s (.jump v) = some r → done c (clip c v) = true → (⟨.complete, clip c v⟩ : Obs) ∈ r.2) ∧
    (∀ r, step c s .clock = some r → done c (bump c s.ticks) = true → (⟨.complete, bump c s.ticks⟩ : Obs) ∈ r.2) ∧
    (∀ t : T, done c t.ticks = true →
        (c.roc = false → (doComplete c t).1.running = false) ∧
        (c.roc = true → done c (clip c c.start) = false →
          (doComplete c t).1.running = true ∧ (doComplete c t).1.ticks = clip c c.start)) ∧
    ((∀ d r, step c s (.stall d) = some r → r.2 = [] ∧ r.1.ticks = s.ticks ∧ r.1.running = s.running) ∧
     (∀ r, step c s .clock = some r → done c (bump c s.ticks) = false →
        r.1.ticks = bump c s.ticks ∧ r.2 = [⟨.tick, bump c s.ticks⟩])) := by
  have i := reachable_inv hs
  refine ⟨fun op r h => ?_, fun v r h hd => ?_, fun v r h hd => ?_, fun v r h hd => ?_, fun r h hd => ?_, fun t hd => ?_,
    fun d r h => ?_, fun r h hd => ?_⟩
  · obtain ⟨i1, f, -⟩ := step_ok c s op r i h
    exact ⟨f.complete, i1.run_notdone⟩
  · obtain rfl := Option.some.inj h
    exact List.mem_cons_of_mem _ (checkDone_complete c _ hd)
  · obtain rfl := Option.some.inj h
    exact List.mem_cons_of_mem _ (checkDone_complete c _ hd)
  · obtain rfl := Option.some.inj h
    exact checkDone_complete c _ hd
  · obtain ⟨a, -, -, -, rfl⟩ := step_clock h
    rw [if_pos hd]
    exact complete_mem c _
  · rcases doComplete_cases c t with ⟨hr, e⟩ | ⟨hr, hd2, e⟩ | ⟨hr, hd2, e⟩ <;> rw [e]
    · simp [hr]
    · simp [hr]
    · simp [hr, hd2]
  · obtain rfl := Option.some.inj h
    exact ⟨rfl, rfl, rfl⟩
  · obtain ⟨a, -, -, -, rfl⟩ := step_clock h
    rw [if_neg (by simp [hd])]
    exact ⟨rfl, rfl⟩

/-- **pause_resumes_once.**  (a) In every reachable state a running timer has no pause pending, and a pending pause end
is not overdue by more than the time the loop is blocked right now.  (b) `pause(ms)` with `ms > 0` leaves the timer not
running with the resume scheduled at exactly `now + ms`.  (c) When the pause delay runs it is never before that instant,
late by at most `slack` (exactly at that instant when nothing blocked the loop), the timer is started (unless its count is
at the end value) and no resume remains: it happens once.  (d) `stop` cancels the pending resume, and without a pending
resume the pause delay cannot run. -/
theorem pause_resumes_once (c : Cfg) (iv : Nat) (s : T) (hs : reachable c iv s) :
    ((s.running = true → s.resume = none) ∧ (∀ r, s.resume = some r → s.now ≤ r + s.slack)) ∧
    (∀ ms r, ms ≠ 0 → step c s (.pause ms) = some r → r.1.running = false ∧ r.1.resume = some (s.now + ms)) ∧
    (∀ r, step c s .resumeFire = some r →
        (∃ t, s.resume = some t ∧ t ≤ s.now ∧ s.now ≤ t + s.slack ∧ (s.slack = 0 → t = s.now)) ∧ r.1.resume = none ∧
        (done c s.ticks = false → r.1.running = true ∧ (⟨.started, s.ticks⟩ : Obs) ∈ r.2)) ∧
    (∀ r, step c s .stop = some r → r.1.resume = none ∧ r.1.running = false ∧ step c r.1 .resumeFire = none) := by
  have i := reachable_inv hs
  refine ⟨⟨i.run_noresume, i.resume_ge⟩, fun ms r hms h => ?_, fun r h => ?_, fun r h => ?_⟩
  · obtain rfl := Option.some.inj h
    simp [hms]
  · obtain ⟨t, hr, hle, rfl⟩ := step_resumeFire h
    have hge := i.resume_ge t hr
    have hnr : s.running = false := by
      cases hb : s.running with
      | false => rfl
      | true => have := i.run_noresume hb; rw [hr] at this; cases this
    exact ⟨⟨t, hr, hle, hge, fun h0 => by omega⟩, doStart_resume c _ hnr, fun hd => by simp [doStart, hnr, hd]⟩
  · obtain rfl := Option.some.inj h
    simp [doStop, step]

/-- non-vacuity on a concrete history (kernel evaluation): a timer counting up to 5 every 2 ticks; the loop stalls for 5
ticks at t = 1: the ticks due at 2, 4 and 6 are delivered back to back at 6 (the loop cannot go idle before: `to 7` is
refused after the first late tick), the next one is on the original schedule at 8; then a timed pause is pending when the
mode stops: the removal posts `stopped` and the pause end cannot run any more. -/
example :
    let c : Cfg := { endv := some 5 }
    (run c (init c 2) [.start, .to 1, .stall 5, .clock, .clock, .clock, .to 8, .clock, .pause 3, .removed, .to 20]).map
        (fun r => (r.2.map (fun o => (o.ev, o.ticks)), r.1.running, r.1.resume)) =
      some ([(.started, 0), (.tick, 0), (.tick, 1), (.tick, 2), (.tick, 3), (.tick, 4), (.paused, 4), (.stopped, 4)],
            false, none) ∧
    run c (init c 2) [.start, .to 1, .stall 5, .clock, .to 7] = none ∧
    run c (init c 2) [.start, .pause 3, .removed, .to 3, .resumeFire] = none ∧
    reachable c 2 (init c 2) := by
  refine ⟨by decide +kernel, by decide +kernel, by decide +kernel, [], [], rfl⟩

end MpfVerif.C13.Timer
