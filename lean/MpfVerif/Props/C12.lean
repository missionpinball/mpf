import MpfVerif.Lemmas.ConfigExt
/-!
# C12 — config validation returns well-typed complete configs or rejects

`Gen/TimeSuffix.lean`, `Gen/BoolWords.lean`, `Gen/ColorNames.lean`, `Gen/SpecTable.lean` and `Gen/SpecSections.lean` are
regenerated from the source (`utility_functions.py`, `config_validator.py`, `rgb_color.py`, `config_spec.yaml`) on every
check; the table theorems below are re-checked against them.
-/
namespace MpfVerif.C12
open MpfVerif.Config MpfVerif.ConfigExt MpfVerif.Gen

/-! ## the time-suffix table of `Util.string_to_ms` (generated) -/

/-- every float-converted branch rounds its product (never truncates it: `int(1.001 * 1000) = 1000`) -/
theorem time_table_rounds : ∀ e ∈ TimeSuffix.table, e.floatConv = true → e.outer = "round" := table_rounds

/-- every branch slices off exactly its own suffix (the `'MSEC'`-caught-by-`'MS'` defect had slice 2 for a 4-letter suffix) -/
theorem time_table_slice_matches : ∀ e ∈ TimeSuffix.table, ∀ s ∈ e.suffixes, s.length = e.slice := by decide +kernel

/-- no branch is dead: no suffix of a later branch ends with a suffix tested by an earlier branch -/
theorem time_table_no_shadow : noShadow TimeSuffix.table = true := by decide +kernel

/-- the multipliers are exactly value-of-unit in ms: ms/msec ×1, d ×86 400 000, h ×3 600 000, m ×60 000, s/sec ×1000 -/
theorem time_table_units :
    TimeSuffix.table.map (fun e => (e.suffixes, e.mults.foldl (· * ·) 1))
      = [(["MS"], 1), (["MSEC"], 1), (["D"], 86400000), (["H"], 3600000), (["M"], 60000), (["S"], 1000), (["SEC"], 1000)] := by
  decide +kernel

/-- at most two multiplications per branch — the shape `time_value_times_unit` covers -/
theorem time_table_mult_chain : ∀ e ∈ TimeSuffix.table, e.mults.length ≤ 2 := by decide +kernel

/-- **value × unit**: with float parse and float multiply modelled by any rounding function of relative error
≤ 2⁻⁵³, `round(float(d) * U)` and `round(float(d) * U₁ * U₂)` return exactly `d·U` whenever that product is a whole
number of ms with magnitude ≤ 2⁴⁹ — for every decimal literal `d` and every unit of the table (`time_table_units`). -/
theorem time_value_times_unit (rnd : ℚ → ℚ) (hr : RelErr (1 / 2 ^ 53) rnd) (d : ℚ) (U₁ U₂ : ℚ) (n : ℤ)
    (hU₁ : 0 ≤ U₁) (hU₂ : 0 ≤ U₂) (hn : d * U₁ * U₂ = n) (hb : |d * U₁ * U₂| ≤ 2 ^ 49) :
    round (rnd (rnd (rnd d * U₁) * U₂)) = n :=
  round_of_relerr (relerr_foldl (by norm_num) hr [U₁, U₂] (by simp [hU₁, hU₂]) (hr d)) hn hb (by norm_num)

/-- one multiplication (`S`, `SEC`: `round(float(d) * 1000)`) -/
theorem time_value_times_unit_single (rnd : ℚ → ℚ) (hr : RelErr (1 / 2 ^ 53) rnd) (d U : ℚ) (n : ℤ)
    (hU : 0 ≤ U) (hn : d * U = n) (hb : |d * U| ≤ 2 ^ 49) : round (rnd (rnd d * U)) = n :=
  round_of_relerr (relerr_foldl (by norm_num) hr [U] (by simp [hU]) (hr d)) hn hb (by norm_num)

/-- the exact-rational rounding used by the executable model agrees with `round` on whole numbers:
the model's answer for a whole product is that product -/
theorem model_round_exact (n : Int) (d : Nat) (hd : 0 < d) : roundHalfEven (n * d) d = n := by
  have hd' : (d : Int) ≠ 0 := by omega
  have : (0 : Int) < d := by omega
  simp only [roundHalfEven, Int.mul_ediv_cancel _ hd', Int.sub_self, Int.mul_zero, if_pos this]

/-- **validate_typed**: for every scalar validator except `pow2` and every YAML scalar, `validate_item` either
rejects / raises / is outside the model, or returns a value of the declared type inside the declared range —
in particular NaN is never returned for a ranged key. -/
theorem validate_typed_partial (vd : V) (item out : Y) (hp : ∀ (h : vd = .pow2), False)
    (h : validateItem vd item = .ok out) : HasType vd out = true :=
  validateItem_typed hp h

/-- known finding D29 (kept because an existing test pins it): `pow2` returns the *unconverted* item —
the string "16", the float 2.5 and `True` come back as they are, none of them an int power of two. -/
theorem pow2_witness :
    validateItem .pow2 (.str "16") = .ok (.str "16") ∧ validateItem .pow2 (.rat 5 2) = .ok (.rat 5 2)
      ∧ validateItem .pow2 (.bool true) = .ok (.bool true) := by decide +kernel

/-- non-vacuity: conversions, range ends, NaN -/
example : validateItem (.int (some ⟨some (0, 1), some (10, 1)⟩)) (.str " 7 ") = .ok (.int 7) := by decide +kernel
example : validateItem (.float (some ⟨some (0, 1), some (1, 1)⟩)) .nan = .reject := by decide +kernel
example : validateItem (.float (some ⟨some (0, 1), some (1, 1)⟩)) (.str "0.25") = .ok (.rat 25 100) := by decide +kernel
example : validateItem .ms (.str "1.001s") = .ok (.int 1001) := by decide +kernel
example : validateItem .ms (.str "100msec") = .ok (.int 100) := by decide +kernel

/-- **lists are normalised and typed**: for every scalar validator except `pow2`, whatever the item was (a YAML list,
a comma-separated string, a single scalar, None), a returned list has only elements of the declared type -/
theorem list_typed (vd : V) (vvd : Option V) (brace : Bool) (item : Item) (out : Item)
    (hp : ∀ (h : vd = .pow2), False) (h : validateConfigItem .list vd vvd brace item = .ok out) :
    ∃ vs, out = .list vs ∧ ∀ v ∈ vs, HasType vd v = true := by
  unfold validateConfigItem at h
  dsimp only at h
  split at h
  · obtain ⟨vs, rfl, hm⟩ := validateElems_ok h
    refine ⟨vs, rfl, fun v hv => ?_⟩
    obtain ⟨y, _, hy⟩ := List.mem_map.mp (hm ▸ List.mem_map_of_mem (f := R.ok) hv)
    exact validateItem_typed hp hy
  · cases h
  · cases h

/-- no element of a provided list is dropped or invented: a YAML list of `n` scalars comes back with `n` elements -/
theorem list_length_kept (vd : V) (vvd : Option V) (brace : Bool) (ys : List Y) (out : Item)
    (h : validateConfigItem .list vd vvd brace (.list ys) = .ok out) : ∃ vs, out = .list vs ∧ vs.length = ys.length := by
  obtain ⟨vs, rfl, hm⟩ := validateElems_ok (show validateElems true vd ys = .ok out from h)
  exact ⟨vs, rfl, by simpa using (congrArg List.length hm).symm⟩

/-- **dicts are typed**: keys by the first validator, values by the second; a non-dict is rejected; None is `{}` -/
theorem dict_typed (kvd vvd : V) (brace : Bool) (item : Item) (out : Item)
    (hk : ∀ (h : kvd = .pow2), False) (hv : ∀ (h : vvd = .pow2), False)
    (h : validateConfigItem .dict kvd (some vvd) brace item = .ok out) :
    ∃ kvs, out = .dict kvs ∧ ∀ p ∈ kvs, HasType kvd p.1 = true ∧ HasType vvd p.2 = true := by
  unfold validateConfigItem at h
  dsimp only at h
  split at h
  · cases h; exact ⟨[], rfl, by simp⟩
  · split at h <;> cases h
    exact ⟨[], rfl, by simp⟩
  · exact validatePairs_typed hk hv h
  · cases h

example : validateConfigItem .list (.int Option.none) Option.none true (.scalar (.str "1, 2,3"))
    = .ok (.list [.int 1, .int 2, .int 3]) := by decide +kernel
example : validateConfigItem .list .str Option.none true (.scalar (.str "a,,b")) = .reject := by decide +kernel
example : validateConfigItem .dict .str (some (.int Option.none)) true (.dict [(.str "a", .str "5")])
    = .ok (.dict [(.str "a", .int 5)]) := by decide +kernel

/-- an unknown key is never accepted silently -/
theorem unknown_key_rejected (n : Nat) (spec : List KeySpec) (src : List (String × Item)) :
    validateSection false (n + 1) spec src = none := by
  simp [validateSection]

/-- a returned config has exactly the keys of the spec, in spec order (defaults filled in) -/
theorem all_spec_keys_present (a : Bool) (n : Nat) (spec : List KeySpec) (src : List (String × Item)) (rs)
    (h : validateSection a n spec src = some rs) : rs.map (·.1) = spec.map (·.key) := by
  unfold validateSection at h
  split at h
  · cases h
  · cases h
    simp only [List.map_map]
    apply List.map_congr_left
    intro ks _
    simp only [Function.comp]
    split <;> (try split) <;> rfl

/-- a provided value is validated by its key's item type and validator (never dropped, never replaced by the
default); a missing required key is rejected -/
theorem provided_key_validated (a : Bool) (n : Nat) (spec : List KeySpec) (src : List (String × Item)) (rs)
    (h : validateSection a n spec src = some rs) (ks : KeySpec) (hk : ks ∈ spec) :
    (∀ v, src.lookup ks.key = some v → (ks.key, validateConfigItem ks.it ks.vd ks.vvd ks.brace v) ∈ rs) ∧
    (src.lookup ks.key = none → ks.default = none → (ks.key, RI.reject) ∈ rs) := by
  unfold validateSection at h
  split at h
  · cases h
  · cases h
    constructor
    · intro v hv
      exact List.mem_map.mpr ⟨ks, hk, by simp [hv]⟩
    · intro hv hd
      exact List.mem_map.mpr ⟨ks, hk, by simp [hv, hd]⟩

/-! ## the spec itself (generated) -/

/-- every validator used anywhere in `config_spec.yaml` is known: either modelled here or listed as opaque -/
theorem all_spec_validators_known :
    ∀ r ∈ SpecTable.table, ∀ b ∈ r.bases, b ∈ modelledValidators ∨ b ∈ opaqueValidators := by
  have h : (SpecTable.table.all fun r => r.bases.all fun b =>
      modelledValidators.contains b || opaqueValidators.contains b) = true := by decide +kernel
  intro r hr b hb
  simpa using List.all_eq_true.mp (List.all_eq_true.mp h r hr) b hb

/-- every entry has one of the five item types (or is a bare `ignore`) -/
theorem all_spec_item_types_known :
    ∀ r ∈ SpecTable.table, r.itemType ∈ ["single", "list", "set", "dict", "event_handler", ""] := by
  -- written with a pattern, not `r.itemType`: evaluation then meets the same closed term `[…].contains "single"`
  -- for every row with that item type and computes it once
  have h : (SpecTable.table.all fun
      | ⟨_, _, it, _, _, _⟩ => ["single", "list", "set", "dict", "event_handler", ""].contains it) = true := by
    decide +kernel
  exact fun r hr => List.contains_iff_mem.mp (List.all_eq_true.mp h r hr)

/-! ## the non-scalar validators -/

/-- **extended validators are typed**: for `x_or_token`, `event_handler` / `event_posted` strings, `int_from_hex`, `color`,
`gain`, the six `template_*` builders and `machine(<collection>)` (and the scalar validators again), for every
environment (device names, verdict of Python's expression parser) and every YAML scalar, `validate_item` rejects /
raises / is outside the model, or returns a value of the declared type: a runtime token only for an `_or_token`
validator, an int ≤ 255, a 3-component colour, a gain in [0,1] or NaN (see `gain_nan_witness`), a template object of the
right class (a constant of the right type, or an expression template), a device that exists in that collection. -/
theorem ext_validate_typed (env : Env) (vd : XV) (y : Y) (out : T) (h : vScalarX env vd y = .ok out) :
    HasTypeX env vd out = true :=
  vScalarX_typed h

/-- a device reference is accepted only if the device exists in the named collection -/
theorem device_reference_exists (env : Env) (c : String) (y : Y) (c' n : String)
    (h : vScalarX env (.machine c) y = .ok (.dev c' n)) : c' = c ∧ n ∈ (env.devs.lookup c).getD [] := by
  have := vScalarX_typed h
  simp only [HasTypeX, Bool.and_eq_true, beq_iff_eq] at this
  exact ⟨this.1.symm, by simpa using this.2⟩

/-- every colour of the generated name table (`NAMED_RGB_COLORS`) has components in 0..255 -/
theorem named_colours_in_range : ∀ e ∈ ColorNames.table, e.2.1 ≤ 255 ∧ e.2.2.1 ≤ 255 ∧ e.2.2.2 ≤ 255 := by decide +kernel

/-- observation kept visible: the list form of a colour is not range-checked (`"300,0,0"` comes back as (300, 0, 0)) and a
fourth component is dropped silently; the name and hex forms are always inside 0..255 -/
theorem color_list_form_unranged_witness :
    (match vColor (.str "300,0,0"), vColor (.str "1,2,3,4") with
     | .ok (.color 300 0 0), .ok (.color 1 2 3) => true | _, _ => false) = true := by decide +kernel

/-- observation kept visible: `min(max(nan, 0.0), 1.0)` is NaN, so the gain validator returns NaN for "nan" — a float, but
in no range; anything unparsable silently becomes gain 1.0 -/
theorem gain_nan_witness :
    (match vGain (.str "nan"), vGain (.str "loud") with
     | .ok (.s .nan), .ok (.s (.rat 1 1)) => true | _, _ => false) = true := by decide +kernel

/-- non-vacuity: token, colour by name / hex, device, template forms -/
example : (match vScalarX {} (.orToken (.base (.int Option.none))) (.str "(x)") with | .ok (.token "x") => true | _ => false) = true := by decide +kernel
example : (match vColor (.str "red"), vColor (.str "00ff80") with | .ok (.color 255 0 0), .ok (.color 0 255 128) => true | _, _ => false) = true := by decide +kernel
example : (match vMachine { devs := [("switches", ["s1"])] } "switches" (.str "s1"), vMachine { devs := [("switches", ["s1"])] } "coils" (.str "s1") with
    | .ok (.dev "switches" "s1"), .reject => true | _, _ => false) = true := by decide +kernel
example : (match vTmpl {} .ms (.str "1.5s"), vTmpl { synOk := false } .int (.str "1 +"), vTmpl {} .bool (.str "x>1") with
    | .ok (.tmpl .int true (.int 1500)), .reject, .ok (.tmpl .bool false (.str "x>1")) => true | _, _, _ => false) = true := by decide +kernel

/-! ## sections at every depth (`subconfig`, nested sections, all item types) -/

/-- **complete and typed at every depth**: for every spec table, environment, depth bound, section (with base specs) and
source tree, `_validate_config` rejects, or returns a dict that lists every non-ignored key of the (merged) spec, in spec
order, each with a value of its declared type — lists / sets element-wise, dicts and event-handler dicts key- and
value-wise, `subconfig(...)` values and the entries of nested sections *recursively* by the same statement — and that
holds no key the spec does not know (unless the section has `__allow_others__` or the key starts with `_`). -/
theorem deep_section_typed_complete (specs : List Sec) (env : Env) (fuel : Nat) (names : List String) (src out : T)
    (h : valSec specs env fuel names src = .ok out) : wtSec specs env fuel names out = true := by
  induction fuel generalizing names src out with
  | zero => cases h
  | succ n ih =>
    unfold valSec at h
    unfold wtSec
    split at h
    · cases h
    · rename_i sec hsec
      split at h
      · rename_i kvs
        split at h
        · cases h
        · rename_i hunk
          generalize hr : valKeys (valSec specs env n) env (primary names) kvs sec.keys = r at h
          rcases r with o | _ | _ | _ <;> try cases h
          obtain ⟨res, rfl, hw, hk⟩ := valKeys_typed ih _ kvs sec.keys hr
          cases h
          simp only [hsec, Bool.and_eq_true]
          refine ⟨hw _, ?_⟩
          cases ha : sec.allowOthers
          · have known : ∀ p ∈ kvs, knownKey sec p.1 = true := fun p hp => by
              cases hkn : knownKey sec p.1 with
              | true => rfl
              | false => exact (hunk (by rw [ha]; exact List.any_eq_true.mpr ⟨p, hp, by rw [hkn]; rfl⟩)).elim
            simp only [Bool.false_or, List.all_append, Bool.and_eq_true, List.all_eq_true]
            refine ⟨fun p hp => ?_, fun p hp => known p (List.mem_filter.mp hp).1⟩
            obtain ⟨k, hk', e⟩ := hk p hp
            rw [e]
            exact knownKey_of_spec hk'
          · rfl
      · cases h

/-- an unknown key is rejected wherever it stands: `valSec` is the function applied at every depth, so this is the
statement for every nested section too -/
theorem deep_unknown_key_rejected (specs : List Sec) (env : Env) (fuel : Nat) (names : List String) (sec : Sec)
    (kvs : List (Y × T)) (hs : buildSpec specs names = some sec) (ha : sec.allowOthers = false)
    (hu : kvs.any (fun p => !knownKey sec p.1) = true) :
    (match valSec specs env (fuel + 1) names (.d kvs) with | .reject => true | _ => false) = true := by
  simp [valSec, hs, ha, hu]

/-- a source that is not a dict (None, a scalar, a list) is rejected at every depth -/
theorem deep_non_dict_rejected (specs : List Sec) (env : Env) (fuel : Nat) (names : List String) (sec : Sec) (y : Y)
    (hs : buildSpec specs names = some sec) :
    (match valSec specs env (fuel + 1) names (.s y) with | .reject => true | _ => false) = true := by
  simp [valSec, hs]

/-- a two-level spec for the examples: `coil` has a required number, an optional `subconfig(overwrite)` and a list of them -/
def exSpecs : List Sec := [
  { name := "coil", keys := [{ key := "number", vd := .base (.int Option.none), dflt := Option.none },
                             { key := "ov", vd := .subconfig ["overwrite"] },
                             { key := "ovs", it := .list, vd := .subconfig ["overwrite"] }] },
  { name := "overwrite", keys := [{ key := "pulse_ms", vd := .base .ms }, { key := "switch", vd := .machine "switches" }] }]

/-- non-vacuity: a nested source validates two levels deep (defaults filled at both levels, time converted, device
resolved); an unknown key / an unknown device / a missing required key at depth rejects the whole config -/
example : (match valSec exSpecs { devs := [("switches", ["s1"])] } 3 ["coil"]
      (.d [(.str "number", .s (.str "7")), (.str "ov", .d [(.str "pulse_ms", .s (.str "1s")), (.str "switch", .s (.str "s1"))])]) with
    | .ok (.d [(.str "number", .s (.int 7)),
               (.str "ov", .d [(.str "pulse_ms", .s (.int 1000)), (.str "switch", .dev "switches" "s1")]),
               (.str "ovs", .l [])]) => true
    | _ => false) = true := by decide +kernel
example : (match valSec exSpecs {} 3 ["coil"]
      (.d [(.str "number", .s (.int 7)), (.str "ovs", .l [.d [], .d [(.str "zz", .s (.int 1))]])]) with
    | .reject => true | _ => false) = true := by decide +kernel
example : (match valSec exSpecs {} 3 ["coil"] (.d [(.str "number", .s (.int 7)), (.str "ov", .d [(.str "switch", .s (.str "s9"))])]),
      valSec exSpecs {} 3 ["coil"] (.d [(.str "ov", .d [])]) with
    | .reject, .reject => true | _, _ => false) = true := by decide +kernel

/-- every `subconfig(...)` of `config_spec.yaml` (and every nested section) names sections that exist -/
theorem all_subconfig_targets_exist :
    ∀ s ∈ SpecSections.table, ∀ k ∈ s.keys, ∀ n ∈ k.subs, SpecSections.table.any (fun t => t.name == n) = true := by
  have h : (let names := SpecSections.table.map (strKey ·.name)
      SpecSections.table.all fun s => s.keys.all fun k => k.subs.all fun n => names.any (Nat.beq (strKey n))) = true := by
    decide +kernel
  intro s hs k hk n hn
  obtain ⟨_, hm, e⟩ :=
    List.any_eq_true.mp (List.all_eq_true.mp (List.all_eq_true.mp (List.all_eq_true.mp h s hs) k hk) n hn)
  obtain ⟨t, ht, rfl⟩ := List.mem_map.mp hm
  exact List.any_eq_true.mpr ⟨t, ht, beq_iff_eq.mpr (strKey_inj (Nat.eq_of_beq_eq_true e).symm)⟩

/-- `_check_sections` tests `config_type not in spec[k]['__valid_in__']` on the *string*; for the two config types that are
checked (machine, mode) this substring test agrees with membership in the comma-separated list, for every section -/
theorem valid_in_substring_is_membership :
    ∀ s ∈ SpecSections.table, ∀ ct ∈ ["machine", "mode"], validIn ct s = s.validInList.contains ct := by
  -- few distinct `__valid_in__` values occur
  have h : ((SpecSections.table.map fun s => (s.validIn, s.validInList)).eraseDups.all fun p =>
      ["machine", "mode"].all fun ct => isInfix ct.toList p.1.toList == p.2.contains ct) = true := by decide +kernel
  intro s hs ct hct
  have hp := List.all_eq_true.mp h (s.validIn, s.validInList) (List.mem_eraseDups.mpr (List.mem_map_of_mem hs))
  exact beq_iff_eq.mp (List.all_eq_true.mp hp ct hct)

end MpfVerif.C12
