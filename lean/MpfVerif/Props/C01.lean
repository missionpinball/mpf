import MpfVerif.Lemmas.EventBus
import MpfVerif.Gen.EventFacts
/-!
# C01 — Event dispatch is complete, priority-ordered and serial

Property theorems only (model: `Model/EventBus.lean`, helper lemmas: `Lemmas/EventBus.lean`).
`progs : Nat → Prog` (the behaviour of every handler and callback) is universally quantified everywhere, and the
queue theorems hold for an arbitrary dispatch function `proc` and callback runner `cbrun`.

Tie to the source: the facts of `Gen/EventFacts.lean` (see there and the header of `Model/EventBus.lean`); the last part of
this file proves they are the facts the theorems assume (hypotheses `… .facts = Facts.canon`).
-/
namespace MpfVerif.C01
open MpfVerif.EventBus

/-- Registration keeps every handler list sorted by priority, descending: after ANY history of `add_handler`,
`remove_handler_by_key`, `remove_all_handlers_for_event`, `replace_handler`, `remove_handler(method)` and
`remove_handler_by_event`, for every event. -/
theorem reg_sorted (ops : List RegOp) (ev : Nat) :
    (regGet (ops.foldl applyOp []) ev).Pairwise (fun a b => a.prio ≥ b.prio) :=
  List.foldlRecOn ops applyOp (motive := RegSorted) (b := []) (fun _ => List.Pairwise.nil)
    (fun r h op _ => applyOp_sorted r op h) ev

/-- ... and stable: in a sorted list the new handler goes behind every handler of the same or a higher priority and
in front of the first lower one, and no other handler moves (registration order among equals). -/
theorem reg_stable (r : Reg) (ev : Nat) (h : Handler) (hs : RegSorted r) :
    regGet (addHandler r ev h) ev = insAfter h (regGet r ev) := by
  simp only [addHandler, regGet_regSet, if_true]
  exact sortDesc_append_one h _ (hs ev)

/-- `replace_handler` = drop the matching entries of that event (same callback; with kwargs also equal kwargs), then
place the new entry like `add_handler` does: behind every remaining entry of the same or a higher priority.  No other
entry of the event moves, and no other event changes. -/
theorem replace_lands (r : Reg) (ev : Nat) (h : Handler) (hs : RegSorted r) :
    regGet (replaceHandler r ev h) ev = insAfter h ((regGet r ev).filter (fun x => !replaceMatches h x)) ∧
    ∀ ev', ev' ≠ ev → regGet (replaceHandler r ev h) ev' = regGet r ev' := by
  constructor
  · simp only [replaceHandler, regGet_regSet, if_true]
    exact sortDesc_append_one h _ ((hs ev).filter _)
  · exact fun ev' hne => by simp [replaceHandler, regGet_regSet, hne.symm]

/-- (`fn` = equality class of the callback object: all bound methods of one callback share it, a `functools.partial`
has its own.)  `remove_handler(method)` removes exactly the entries of that callback under every event, `remove_handler_by_event`
exactly those under the one event; everything else keeps its place. -/
theorem remove_by_callback (r : Reg) (pid ev : Nat) :
    regGet (removeFn r pid) ev = (regGet r ev).filter (fun x => x.fn != pid) ∧
    regGet (removeEvFn r ev pid) ev = (regGet r ev).filter (fun x => x.fn != pid) ∧
    ∀ ev', ev' ≠ ev → regGet (removeEvFn r ev pid) ev' = regGet r ev' := by
  exact ⟨regGet_removeFn r pid ev, by simp [removeEvFn, regGet_regSet],
    fun ev' hne => by simp [removeEvFn, regGet_regSet, hne.symm]⟩

/-- One iteration of `process_event_queue` (stack of deques) simulates the single depth-first agenda: under the
loop-head invariant the iteration either is the swap-in of `event_queue` (agenda unchanged) or performs exactly the
agenda step, and re-establishes the invariant; the loop stops only when the agenda machine has nothing left. -/
theorem queue_refines_spec_step {S Ev : Type} (proc : S → Ev → S × List Ev) (cbrun : S → Option (S × List Ev))
    (st : Loop S Ev) (h : Loop.Inv st) :
    match Loop.step proc cbrun st with
    | none => Spec.step proc cbrun st.abs = none
    | some st' => Loop.Inv st' ∧ ((st.cur = [] ∧ st'.abs = st.abs) ∨ Spec.step proc cbrun st.abs = some st'.abs) :=
  step_sim proc cbrun st h

/-- Lifted to any number of iterations, from any state outside the loop (whatever is in `event_queue`): `n`
iterations reach a state that the agenda machine reaches in at most `n` steps, with the same bus state (registry,
callback queue, log of handler calls and callbacks). -/
theorem queue_refines_spec {S Ev : Type} (proc : S → Ev → S × List Ev) (cbrun : S → Option (S × List Ev))
    (s : S) (queue : List Ev) (n : Nat) :
    ∃ m, m ≤ n ∧ Spec.iter proc cbrun m ⟨s, queue⟩ = (Loop.iter proc cbrun n ⟨s, queue, [], []⟩).abs := by
  obtain ⟨_, m, hm, h⟩ := iter_refines proc cbrun n ⟨s, queue, [], []⟩ (inv_init s queue)
  exact ⟨m, hm, h⟩

/-- Events posted while an event is handled are dispatched after that event and before everything that was already
waiting: in every reachable loop state with current event `e`, the next agenda is `children(e) ++ everything waiting`. -/
theorem children_before_waiting {S Ev : Type} (proc : S → Ev → S × List Ev) (cbrun : S → Option (S × List Ev))
    (s : S) (queue : List Ev) (n : Nat) (st : Loop S Ev) (hreach : st = Loop.iter proc cbrun n ⟨s, queue, [], []⟩)
    (e : Ev) (rest : List Ev) (hc : st.cur = e :: rest) :
    ∃ st', Loop.step proc cbrun st = some st' ∧ st'.s = (proc st.s e).1 ∧
      st'.abs.agenda = (proc st.s e).2 ++ (rest ++ st.inner.flatten) := by
  obtain ⟨st', hst, _, habs⟩ := step_dispatch proc cbrun st (hreach ▸ inv_iter_init proc cbrun s queue n) e rest hc
  exact ⟨st', hst, congrArg Spec.s habs, congrArg Spec.agenda habs⟩

/-- A completion callback runs only when everything is drained: whenever the inner loop is not running
(`next_queue` empty) nothing is left stacked in `inner_queue`, so a callback step happens only with an empty agenda. -/
theorem callback_after_descendants {S Ev : Type} (proc : S → Ev → S × List Ev) (cbrun : S → Option (S × List Ev))
    (s : S) (queue : List Ev) (n : Nat)
    (hc : (Loop.iter proc cbrun n ⟨s, queue, [], []⟩).cur = [])
    (hq : (Loop.iter proc cbrun n ⟨s, queue, [], []⟩).queue = []) :
    (Loop.iter proc cbrun n ⟨s, queue, [], []⟩).abs.agenda = [] := by
  simp [Loop.abs, hc, hq, (inv_iter_init proc cbrun s queue n).1 hc]

/-- The loop never ends with an event or a callback left: when `process_event_queue` returns, the event queue, the
deque stack and the callback queue are all empty. -/
theorem loop_ends_drained {S Ev : Type} (proc : S → Ev → S × List Ev) (cbrun : S → Option (S × List Ev))
    (s : S) (queue : List Ev) (n : Nat)
    (hn : Loop.step proc cbrun (Loop.iter proc cbrun n ⟨s, queue, [], []⟩) = none) :
    let st := Loop.iter proc cbrun n ⟨s, queue, [], []⟩
    st.cur = [] ∧ st.inner = [] ∧ st.queue = [] ∧ cbrun st.s = none :=
  have ⟨hc, hq, hcb⟩ := (loop_step_eq_none proc cbrun _).mp hn
  ⟨hc, (inv_iter_init proc cbrun s queue n).1 hc, hq, hcb⟩

/-- Exactly-once bookkeeping of callbacks, for all handler programs: dispatching an event runs no callback and — when
no handler raised — queues its own callback exactly once (none if it has none); when a handler raised, the callback
is NOT queued (the code lets the exception leave `_process_event`) ... -/
theorem callback_registered_once (progs : Nat → Prog) (c : Core) (e : Posted) (hf : c.facts = Facts.canon) :
    cbSns (processEvent progs c e).1.log = cbSns c.log ∧
    (if (processEvent progs c e).1.raised then (processEvent progs c e).1.cbq = c.cbq else
      match e.cb with
      | none => (processEvent progs c e).1.cbq = c.cbq
      | some cb => ∃ kw, (processEvent progs c e).1.cbq = c.cbq ++ [(cb, e.sn, kw)]) := by
  have h := runHandlersX_frame progs e.ev e.sn e.ty (regGet c.reg e.ev) { c with qempty := true } e.kw .none
  fun_cases processEvent progs c e
  case case1 hx hr =>
    rw [hx] at h
    exact ⟨h.2.1, (if_pos hr).mpr h.1⟩
  case case2 hx hr hcb =>
    rw [hx] at h
    exact ⟨h.2.1, (if_neg hr).mpr (hcb ▸ h.1)⟩
  case case3 hx hr cb hcb _ =>
    rw [hx] at h
    exact ⟨h.2.1, (if_neg hr).mpr (hcb ▸ ⟨_, by rw [h.2.2, hf, h.1]; rfl⟩)⟩

/-- ... and a callback step runs the LAST queued entry, removes exactly that entry and logs it once; together with
`callback_after_descendants` (it runs only with an empty agenda) an entry can never run twice. -/
theorem callback_at_most_once (progs : Nat → Prog) (c c' : Core) (posted : List Posted) (hf : c.facts = Facts.canon)
    (h : cbRun progs c = some (c', posted)) :
    ∃ pid sn kw, c.cbq = c'.cbq ++ [(pid, sn, kw)] ∧ c'.log = c.log ++ [Obs.cb pid sn kw] := by
  revert h
  fun_cases cbRun progs c
  case case1 => nofun
  case case2 pid sn kw rest hp =>
    intro h
    obtain rfl : (runActs _ (progs pid).acts).1 = c' := congrArg Prod.fst (Option.some.inj h)
    rw [hf] at hp
    exact ⟨pid, sn, kw, by rw [runActs_frame _ runAct_cbq]; exact popAt_right_spec _ _ _ hp,
      runActs_frame _ runAct_log _ _⟩

/-- One dispatch (plain, boolean or relay; with or without blocking facilities) in which no handler raises calls exactly
the handlers of the snapshot taken when the dispatch begins that are not blocked by a `_min_priority` returned earlier in
this dispatch and whose condition holds on the merged kwargs, each once, in list order (= descending priority by
`reg_sorted`), boolean events up to the first `False`, relay events each on the fold so far — whatever the handlers do
to the registry meanwhile (a peer removed or replaced before its turn is still called from the snapshot, one added
meanwhile is not, nobody is skipped or called twice). -/
theorem dispatch_set (progs : Nat → Prog) (c : Core) (e : Posted) (hr : (processEvent progs c e).1.raised = false) :
    (processEvent progs c e).1.log = c.log ++ dispCalls progs e.ev e.sn e.ty (regGet c.reg e.ev) e.kw := by
  obtain ⟨n, h1, h2⟩ := processEvent_log progs c e
  rw [h1, List.take_of_length_le (h2 hr)]

/-- ... and when a handler raises, what has been delivered is a prefix of that list: every handler in front of the
raising one exactly once and in order, nobody behind it (`EventHandlerException` ends `_run_handlers`). -/
theorem dispatch_prefix_on_exception (progs : Nat → Prog) (c : Core) (e : Posted) :
    ∃ n, (processEvent progs c e).1.log = c.log ++ (dispCalls progs e.ev e.sn e.ty (regGet c.reg e.ev) e.kw).take n := by
  obtain ⟨n, h1, _⟩ := processEvent_log progs c e
  exact ⟨n, h1⟩

/-- `_min_priority` never suppresses a handler that has no blocking facility, and a handler with a facility is left out
only when the limit of `all` or the limit of its own facility, as stored in the event's kwargs, is above its priority. -/
theorem blocking_sound (kw : Kw) (h : Handler) :
    (h.fac = none → blocked kw h = false) ∧
    (blocked kw h = true → ∃ f mp, h.fac = some f ∧ kwGet kw minPrio = some (.dict mp) ∧
      ((∃ a, dGet mp 0 = some a ∧ a > h.prio) ∨ (∃ v, dGet mp f = some v ∧ v > h.prio))) := by
  fun_cases blocked kw h
  case case1 f mp hkw hfac =>
    have key : ∀ k, (match dGet mp k with | some a => decide (a > h.prio) | none => false) = true →
        ∃ a, dGet mp k = some a ∧ a > h.prio := fun k hk => by
      cases hd : dGet mp k with
      | none => rw [hd] at hk; cases hk
      | some a => rw [hd] at hk; exact ⟨a, rfl, of_decide_eq_true hk⟩
    exact ⟨(fun hn => nomatch hfac.symm.trans hn),
      fun hb => ⟨f, mp, hfac, hkw, ((Bool.or_eq_true _ _).mp hb).imp (key 0) (key f)⟩⟩
  case case2 => exact ⟨fun _ => rfl, nofun⟩

/-- With the event monitor on, `_post` has no fast path: every post is queued (also one without handler and callback)
and reported to the monitor exactly once, under its own serial, with the posted kwargs. -/
theorem monitor_reports_every_post (c : Core) (ev : Nat) (ty : Ty) (cb : Option Nat) (kw : Kw) (hm : c.mon = true) :
    (runAct c (.post ev ty cb kw)).2 = [⟨ev, ty, cb, kw, c.nextSn⟩] ∧
    (runAct c (.post ev ty cb kw)).1.mlog = c.mlog ++ [(c.log.length, SObs.mon ev c.nextSn kw)] := by
  simp [runAct, hm]

/-- A future of `wait_for_event` / `wait_for_any_event` is resolved at most once, whatever programs run: no future is
reported twice in the side log (a second `set_result` raises instead). -/
theorem future_resolves_once (c : Core) (acts : List Act) (h : FutInv c) : FutInv (runActs c acts).1 :=
  runActs_preserves runAct_futInv c acts h

/-- An exception ends the invocation of `process_event_queue`: when the dispatch of the current event `e` raises, the
events still waiting in `next_queue` (`rest`) and in `inner_queue` are dropped (they are locals of the invocation),
`event_queue` keeps exactly what was posted during the interrupted dispatch, and `callback_queue` is as it was before the
dispatch — the callback of `e` is not queued.  (This is what the code does; MPF treats an exception in a handler as
fatal and shuts down.) -/
theorem exception_ends_invocation (progs : Nat → Prog) (b : Bus) (e : Posted) (rest : List Posted)
    (hc : b.cur = e :: rest) (hf : b.s.facts = Facts.canon) (hr : (processEvent progs b.s e).1.raised = true) :
    ∃ s', Bus.stepX progs b = some (⟨s', b.queue ++ (processEvent progs b.s e).2, [], []⟩, true) ∧
      s'.cbq = b.s.cbq ∧ s'.raised = false ∧ s'.reg = (processEvent progs b.s e).1.reg ∧
      s'.log = (processEvent progs b.s e).1.log := by
  have hcb := (callback_registered_once progs b.s e hf).2
  rw [hr] at hcb
  simp only [if_true] at hcb
  refine ⟨{ (processEvent progs b.s e).1 with raised := false, mlog := (processEvent progs b.s e).1.mlog ++
      [((processEvent progs b.s e).1.log.length, SObs.exc)] }, ?_, ?_⟩
  -- `stepX` pops `e`, sees the dispatch raised and returns before `Loop.stepF` is reached
  · simp only [Bus.stepX, hc, hf, Facts.canon, popAt, hr, if_true, enq_right]
  · exact ⟨hcb, rfl, rfl, rfl⟩

/-- merged kwargs = posted ⊕ registered, the handler's value wins -/
theorem merge_handler_wins (posted hkw : Kw) (k : Nat) (hu : (hkw.map Prod.fst).Nodup) :
    kwGet (kwUpdate posted hkw) k = match kwGet hkw k with | some v => some v | none => kwGet posted k := by
  induction hkw generalizing posted with
  | nil => rfl
  | cons p r ih =>
    simp only [List.map_cons, List.nodup_cons] at hu
    rw [kwUpdate, ih _ hu.2, kwGet]
    by_cases h : p.1 = k
    · subst h; simp [kwGet_eq_none r _ hu.1, kwGet_kwSet]
    · cases kwGet r k <;> simp [kwGet_kwSet, h]

/-- the handler lists stay sorted through everything handlers, callbacks and top-level code do -/
theorem reg_sorted_preserved (c : Core) (acts : List Act) (hf : c.facts = Facts.canon) (h : RegSorted c.reg) :
    RegSorted (runActs c acts).1.reg :=
  (runActs_preserves (P := fun c => c.facts = Facts.canon ∧ RegSorted c.reg)
    (fun c a h => ⟨(runAct_facts c a).trans h.1, runAct_reg_sorted c a h.1 h.2⟩) c acts ⟨hf, h⟩).2

/-! ### the facts of the source are the facts of the model -/

/-- What the translator read from `mpf/core/events.py` (regenerated on every check) is what all theorems here assume:
`add_handler` appends and sorts by priority, descending; `_run_handlers` iterates a copy of the list; `_post` appends to
the right of `event_queue`; `process_event_queue` pops `next_queue` and `inner_queue` on the left, pushes `inner_queue`
on the left and pops `callback_queue` on the right; `_process_event` appends callbacks on the right. -/
theorem source_facts_canonical : Gen.EventFacts.sourceFacts = Facts.canon := by decide

/-- hence one iteration of the loop the driver runs (deque ends from the source) is the iteration the refinement
theorems are about -/
theorem source_loop_is_model_loop {S Ev : Type} (proc : S → Ev → S × List Ev) (cbrun : S → Option (S × List Ev))
    (st : Loop S Ev) : Loop.stepF Gen.EventFacts.sourceFacts proc cbrun st = Loop.step proc cbrun st := by
  rw [source_facts_canonical]; exact Loop.stepF_canon proc cbrun st

/-- ... and the registration the driver runs (sort facts from the source) is the one `reg_sorted` / `reg_stable` /
`replace_lands` are about -/
theorem source_registry_is_model_registry (r : Reg) (ev : Nat) (h : Handler) :
    addHandlerF Gen.EventFacts.sourceFacts r ev h = addHandler r ev h ∧
    replaceHandlerF Gen.EventFacts.sourceFacts r ev h = replaceHandler r ev h := by
  rw [source_facts_canonical]; exact ⟨rfl, rfl⟩

/-! ### non-vacuity: a 3-level posting tree, equal priorities, a handler removing a later one and adding a new one -/

def exProgs : Nat → Prog
  | 1 => ⟨[.post 2 .plain (some 9) [], .removeKey 1 12, .add 1 ⟨14, 5, [], none, 0, 0, none⟩, .post 3 .plain (some 8) []], .none⟩
  | 2 => ⟨[.post 4 .plain (some 7) [(1, .int 1)]], .none⟩
  | 8 => ⟨[.post 5 .plain none []], .none⟩
  | _ => ⟨[], .none⟩

def exBus : Bus :=
  (Bus.top { s := {} } [.add 1 ⟨11, 0, [], none, 1, 1, none⟩, .add 1 ⟨12, 0, [(1, .int 7)], none, 0, 0, none⟩, .add 2 ⟨13, 0, [], none, 2, 2, none⟩,
    .add 3 ⟨15, 0, [], none, 0, 0, none⟩, .add 4 ⟨16, 0, [], some (1, 1), 0, 0, none⟩, .add 5 ⟨17, 0, [], none, 0, 0, none⟩,
    .post 1 .plain (some 9) [(1, .int 1)], .post 5 .plain (some 7) []])

/-- a(1) posts b(2), c(3); b posts d(4); e(5) was waiting: a b d c e, then callbacks last-first, the callback of c posts e -/
example : ((Bus.drain exProgs 100 exBus).map (fun b => b.s.log.map showObs)) =
    some ["c11.1.1:1", "c12.1.1:7", "c13.2.-", "c16.4.1:1", "c15.3.-", "c17.5.-", "b7.1.-", "b8.3.-", "c17.5.-",
      "b7.4.1:1", "b9.2.-", "b9.0.1:1"] := by decide +kernel

/-- the `replace_handler` idiom during the handler's own dispatch (self, an already served peer, a waiting peer; and
`remove_handler(method)` of a waiting peer): nobody is skipped in the running dispatch; the next post sees the new order -/
def exProgs2 : Nat → Prog
  | 1 => ⟨[.replace 1 ⟨21, 30, [], none, 1, 1, none⟩], .none⟩
  | 2 => ⟨[.replace 1 ⟨22, 5, [], none, 3, 3, none⟩, .removeFn 4], .none⟩
  | _ => ⟨[], .none⟩

example : ((Bus.drain exProgs2 100 (Bus.top { s := {} } [.add 1 ⟨11, 30, [], none, 1, 1, none⟩, .add 1 ⟨12, 20, [], none, 2, 2, none⟩,
      .add 1 ⟨13, 10, [], none, 3, 3, none⟩, .add 1 ⟨14, 10, [(1, .int 1)], none, 4, 4, none⟩, .post 1 .plain none [], .post 1 .boolean none []])).map
      (fun b => (b.s.log.map showObs, (regGet b.s.reg 1).map (·.key)))) =
    some (["c11.1.-", "c12.1.-", "c13.1.-", "c14.1.1:1", "c21.1.-", "c12.1.-", "c22.1.-"], [21, 12, 22]) := by decide +kernel

/-- blocking, an exception and a future in one run: handler 11 (priority 5) returns `{"_min_priority": {all: 0, f1: 4}}`,
so 12 (facility f1, priority 3) is skipped while 13 (facility f1, priority 4) and 14 (no facility) are called with the
limit in their kwargs; event 2's handler raises: event 3, which was waiting behind it, is never dispatched and the
callback of event 2 never runs, the callback of event 1 stays queued; the wait handler 15 resolves future 7 once. -/
def exProgs3 : Nat → Prog
  | 1 => ⟨[], .block [(0, 0), (1, 4)]⟩
  | 2 => ⟨[.raise], .none⟩
  | 7 => ⟨[.removeKey 1 15, .resolve 7], .none⟩
  | _ => ⟨[], .none⟩

example : ((Bus.soon exProgs3 10 (Bus.top { s := {} } [.add 1 ⟨11, 5, [], none, 1, 1, none⟩, .add 1 ⟨12, 3, [], none, 0, 0, some 1⟩,
      .add 1 ⟨13, 4, [], none, 0, 0, some 1⟩, .add 1 ⟨14, 0, [], none, 0, 0, none⟩, .add 1 ⟨15, 1, [], none, 7, 20015, none⟩,
      .add 2 ⟨16, 0, [], none, 2, 2, none⟩, .add 3 ⟨17, 0, [], none, 0, 0, none⟩,
      .post 1 .plain (some 9) [], .post 2 .plain (some 8) [], .post 3 .plain none []])).map
      (fun b => (b.s.log.map showObs, b.s.mlog.map (fun p => showSObs p.2), b.queue.length, b.s.cbq.map (·.1)))) =
    some (["c11.1.-", "c13.1.100:{0:0;1:4}", "c15.1.100:{0:0;1:4}", "c14.1.100:{0:0;1:4}", "c16.2.-"], ["f7", "x"], 0, [9]) := by
  decide +kernel

end MpfVerif.C01
