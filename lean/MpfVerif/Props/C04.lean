import MpfVerif.Lemmas.BallLedgerStep
import MpfVerif.Lemmas.BallLedgerEC
/-!
# C04 — ball counts agree with the physical machine and are conserved (PARTIAL: theorems about the ledger protocol)

The theorems quantify over **every** history of ledger transitions (`run c (initSt c counts) ops = some s`: every
transition of `ops` was enabled).  That the asyncio coroutines of `mpf/devices/ball_device/*.py` only perform such
histories is *not* proved; it is checked at run time by the refinement monitor of `harness/corr/C04.py`.
-/
namespace MpfVerif.C04
open MpfVerif.BallLedger

/-- **claims ledger**: after every history of planning / lost / found / capture transitions the `available_balls` of all
devices and playfields sum to `num_balls_known` (each transition moves one claim or adjusts both sides). -/
theorem avail_conservation (c : Cfg) (counts : List Int) (hl : counts.length = c.n) (ops : List Op) (s : St)
    (h : run c (initSt c counts) ops = some s) : total s.avail = s.known :=
  (run_conserved c ops _ s h (init_conserved c counts hl)).2.1

/-- **belief ledger**: in every reachable state Σ device `balls` + Σ playfield `balls` + balls in flight
(left a source, not yet entered / confirmed / declared lost) = `num_balls_known`. -/
theorem ledger_conservation (c : Cfg) (counts : List Int) (hl : counts.length = c.n) (ops : List Op) (s : St)
    (h : run c (initSt c counts) ops = some s) : total s.balls + s.inflight = s.known :=
  (run_conserved c ops _ s h (init_conserved c counts hl)).2.2

/-- **bounds**: if the initial counts are within capacity then in every reachable state every device satisfies
`0 ≤ balls ≤ counted_balls ≤ capacity` (no count negative or above the number of ball switches). -/
theorem bounds (c : Cfg) (counts : List Int) (hl : counts.length = c.n)
    (h0 : ∀ i, c.isPf i = false → 0 ≤ counts.getD i 0 ∧ counts.getD i 0 ≤ c.capOf i) (ops : List Op) (s : St)
    (h : run c (initSt c counts) ops = some s) :
    ∀ i, c.isPf i = false → 0 ≤ s.b i ∧ s.b i ≤ s.c i ∧ s.c i ≤ c.capOf i := by
  refine run_bounded c ops _ s h (init_conserved c counts hl) ?_
  intro i hi
  have := h0 i hi
  simp only [initSt, St.b, St.c]
  omega

/-- one conservation step: whatever single enabled transition happens, both sums move together with `known` -/
theorem step_conserves (c : Cfg) (s s' : St) (op : Op) (h : step c s op = some s') (hc : Conserved c s) :
    total s'.avail = s'.known ∧ total s'.balls + s'.inflight = s'.known :=
  (step_conserved c s s' op h hc).2

/-- **readiness guard, single-source topologies**: let `c` be a configuration in which no device ejects into itself and
every target has at most one source (`Cfg.singleSource`, a decidable predicate on the `eject_targets` edges).  Then in
*every* state reachable from the initial one by any history of ledger transitions, whenever `ejectStart d t` is enabled
towards a device `t`, the balls counted in `t` plus all balls MPF has fired at `t` and not yet accounted for — including
the one being fired now — fit into `t`: MPF never fires into a full device.  The proof carries the invariant
`heading t = |incoming t| + [source d is between ejectStart and ballLeft]` through all transitions
(`Lemmas/BallLedgerHeading.lean`, `Lemmas/BallLedgerStep.lean`); with two sources the invariant is false, see `two_sources_double_fire_witness`. -/
theorem no_fire_into_full_single_source (c : Cfg) (counts : List Int) (hss : c.singleSource = true) (ops : List Op)
    (s s' : St) (d t : Nat) (h : run c (initSt c counts) ops = some s) (hpf : c.isPf t = false)
    (hstep : step c s (.ejectStart d t) = some s') :
    s'.c t + s'.heading.getD t 0 ≤ c.capOf t := by
  obtain ⟨-, ht, he, hph, -, -, -, hr, rfl⟩ := ejectStart_eq_some hstep
  simp only [readyTo, hpf, Bool.false_or, Bool.and_eq_true, decide_eq_true_eq] at hr
  have hinv := run_hinv c ops _ s d t ⟨hss, he, hpf⟩ h (init_hinv c counts d t)
  have heq := hinv.eq
  rw [show s.phase.getD d .idle = .waitTarget from hph, fire_of_phase (by decide)] at heq
  show s.c t + (bump s.heading t 1).getD t 0 ≤ c.capOf t
  rw [getD_bump, if_pos ⟨rfl, hinv.lh ▸ ht⟩, heq]
  have := hr.1
  unfold St.incOf at this
  omega

/-- the hypothesis is not vacuous: the standard machine (trough → plunger → playfield, lock → playfield) is single-source,
the D16 topology is not -/
example : ({ n := 4, pf := [false, false, false, true], cap := [3, 1, 2, 0], maxT := [3, 3, 3, 0],
             edges := [(0, 1), (1, 3), (2, 3)], missing := 3 } : Cfg).singleSource = true := by decide

/-- the registration happens only when the ball has *left* the source: `ejectStart` does not touch `incoming` -/
theorem ejectStart_registers_nothing (c : Cfg) (s s' : St) (d t : Nat) (h : step c s (.ejectStart d t) = some s') :
    s'.inc = s.inc ∧ s'.counted = s.counted := by
  obtain ⟨-, rfl⟩ := of_ite_some h
  exact ⟨rfl, rfl⟩

/-- trough (0) and lock (2) both feed the capacity-1 plunger (1); playfield = 3 -/
def twoSrc : Cfg :=
  { n := 4, pf := [false, false, false, true], cap := [3, 1, 2, 0], maxT := [3, 3, 3, 0],
    edges := [(0, 1), (2, 1), (1, 3)], missing := 3 }

def doubleFire : List Op :=
  [.plan [2, 1, 3], .plan [0, 1, 3], .waitTarget 2, .waitBall 1, .attempt 2 1 0, .ejectStart 2 1,
   .waitTarget 0, .attempt 0 1 0, .ejectStart 0 1, .ballLeft 2, .ballLeft 0]

/-- **known finding D16 (witness)**: with two sources for one free slot both readiness guards pass before either ball
is registered as incoming (`# TODO: block one spot in target device` in `outgoing_balls_handler.py`): after this
enabled history two balls head for a plunger with room for one. -/
theorem two_sources_double_fire_witness :
    (run twoSrc (initSt twoSrc [1, 0, 1, 0]) doubleFire).map
      (fun s => decide (s.c 1 + s.heading.getD 1 0 > twoSrc.capOf 1) && decide ((s.incOf 1).length = 2)) = some true := by
  decide

/-- the hypotheses are satisfiable: a game start (trough → plunger → playfield) is an enabled history and ends with
the ball on the playfield -/
example : (run twoSrc (initSt twoSrc [2, 0, 0, 0])
    [.plan [0, 1, 3], .waitTarget 0, .waitBall 1, .attempt 0 1 0, .ejectStart 0 1, .ballLeft 0, .enterExpected 1,
     .confirm 0 1, .waitTarget 1, .attempt 1 3 0, .ejectStart 1 3, .ballLeft 1, .confirm 1 3]).map
    (fun s => (s.balls, s.avail, s.inflight, s.known)) = some ([1, 0, 0, 1], [1, 0, 0, 1], 0, 2) := by decide

/-- **entrance counter, count = entries − ejects**: whatever sequence of entrance-switch hits (inside or outside the ignore
window), full-time-out expiries, switch openings and own ejects happens to a counter that starts empty, its ball count is
exactly the number of balls it has counted in minus the number it has counted out. -/
theorem entrance_count_is_entries_minus_ejects (cap : Nat) (fullTo : Bool) (node : Nat) (ops : List ECOp) (e : EC)
    (h : ecRun { node := node, cap := cap, fullTo := fullTo } ops = some e) : e.last + e.ejects = e.entries :=
  (ecRun_inv ops _ e h ⟨rfl, rfl, Nat.zero_le _, by simp⟩).count

/-- **entrance counter, never above capacity**: in every reachable state `0 ≤ count ≤ ball_capacity` (a hit on a full device
is not counted; the hit that would fill it waits for `entrance_switch_full_timeout` or for the switch opening and still fits). -/
theorem entrance_count_within_capacity (cap : Nat) (fullTo : Bool) (node : Nat) (ops : List ECOp) (e : EC)
    (h : ecRun { node := node, cap := cap, fullTo := fullTo } ops = some e) : e.last ≤ cap :=
  (ecRun_inv ops _ e h ⟨rfl, rfl, Nat.zero_le _, by simp⟩).le_cap

/-- **entrance counter, full detection**: a hit that would fill the device (`entrance_switch_full_timeout` configured) is
deferred; when the ball stays on the switch for the full time-out the device is counted full. -/
theorem entrance_full_detection (e : EC) (hl : e.last < e.cap) :
    (ecStep e .full).map (fun e' => (e'.last, e'.pending)) = some (e.cap, false) := by
  simp [ecStep, hl]

/-- **known finding (witness)**: capacity 2 with full time-out; a ball enters, a second one comes to rest on the entrance
switch (deferred), the device ejects a ball, the second ball rolls down and the switch opens before the full time-out: the
deferred hit is dropped as a bounce (by design - a ball and a bounce look the same at the switch), count 0 with one ball in
the device (`entries` 1, `ejects` 1, `dropped` 1). -/
theorem entrance_short_rest_dropped_witness :
    (ecRun { node := 2, cap := 2, fullTo := true } [.hit false, .hit false, .left, .release]).map
      (fun e => (e.last, e.entries, e.ejects, e.dropped, e.pending)) = some (0, 1, 1, 1, false) := by decide

/-- the hypotheses are satisfiable and the counter is not trivial: without full time-out every hit outside the ignore window
counts up to the capacity, a hit on the full device does not -/
example : (ecRun { node := 2, cap := 2, fullTo := false } [.hit false, .hit true, .hit false, .hit false, .left]).map
    (fun e => (e.last, e.entries, e.ejects, e.dropped)) = some (1, 2, 1, 2) := by decide

end MpfVerif.C04
