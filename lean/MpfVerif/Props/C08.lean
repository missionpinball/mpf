import MpfVerif.Lemmas.DriverTimers
import MpfVerif.Gen.HwDriverCallSites
import MpfVerif.Lemmas.DriverGen
/-!
# C08 — coils are never driven beyond their configured safety limits

The programs of `Gen/DriverVerify.lean` and `Gen/DriverOps.lean` are *regenerated from `mpf/devices/driver.py` on every
check*; these theorems are re-checked against whatever the source says now.
-/
namespace MpfVerif.C08
open MpfVerif.Py MpfVerif.Gen.DriverVerify MpfVerif.Driver

/-- **pulse power**: for every configuration and every argument (None, bool, int, float, NaN, str, negative, > 1)
`get_and_verify_pulse_power` either raises or returns a number in [0, 1] that does not exceed the effective limit. -/
theorem pulse_power_sound (c : Ctx) :
    Triple c (fun _ => True) get_and_verify_pulse_power (fun _ => False)
      (fun v => inRangeB v 0 1000000 = true ∧ pyCmp ">" v (effMaxPulsePower c) = .ok false) := by
  have hnm : "pulse_power" ≠ "max_pulse_power" := by simp
  refine Triple.cons (fun _ => True) Triple.ifAssign_top (power_sound hnm ?_)
  -- `h1`, `h2`: what `truthy(max_pulse_power)`, `truthy(default_pulse_power)` evaluated to on the branch taken
  refine .ite (sel_assign hnm _ (fun _ ⟨⟨hI, _⟩, _⟩ => hI) fun _ ⟨_, h1⟩ => ?_)
    (.ite (sel_assign hnm _ (fun _ ⟨⟨⟨hI, _⟩, _⟩, _⟩ => hI) fun _ ⟨⟨_, h1⟩, h2⟩ => ?_)
      (Triple.weaken Triple.skip fun _ ⟨⟨⟨hI, h0⟩, h1⟩, h2⟩ => ⟨hI, ?_⟩))
  · simp only [pyeval, Except.ok.injEq] at h1
    simp [pyeval, effMaxPulsePower, h1]
  · simp only [pyeval, Except.ok.injEq] at h1 h2
    simp [pyeval, effMaxPulsePower, h1, h2]
  · simp only [pyeval, Except.ok.injEq] at h1 h2
    simp [effMaxPulsePower, h0, h1, h2]

/-- **hold power**: either raises or returns a number in [0, 1] not above the effective hold limit
(max_hold_power, else 1.0 if allow_enable, else default_hold_power, else 0). -/
theorem hold_power_sound (c : Ctx) :
    Triple c (fun _ => True) get_and_verify_hold_power (fun _ => False)
      (fun v => inRangeB v 0 1000000 = true ∧ pyCmp ">" v (effMaxHoldPower c) = .ok false) := by
  refine Triple.cons (fun _ => True) Triple.ifAssign_top ?_
  refine Triple.cons (fun _ => True) Triple.ifAssign_top ?_
  refine Triple.cons (fun _ => True) Triple.ifAssign_top ?_
  have hnm : "hold_power" ≠ "max_hold_power" := by simp
  refine Triple.cons (fun _ => True) Triple.ifAssign_top (power_sound hnm ?_)
  -- `h1`, `h2`, `h3`: what `truthy` of `max_hold_power`, `allow_enable`, `default_hold_power` evaluated to on the branch taken
  refine .ite (sel_assign hnm _ (fun _ ⟨⟨hI, _⟩, _⟩ => hI) fun _ ⟨_, h1⟩ => ?_)
    (.ite (sel_assign hnm _ (fun _ ⟨⟨⟨hI, _⟩, _⟩, _⟩ => hI) fun _ ⟨⟨_, h1⟩, h2⟩ => ?_)
      (.ite (sel_assign hnm _ (fun _ ⟨⟨⟨⟨hI, _⟩, _⟩, _⟩, _⟩ => hI) fun _ ⟨⟨⟨_, h1⟩, h2⟩, h3⟩ => ?_)
        (Triple.weaken Triple.skip fun _ ⟨⟨⟨⟨hI, h0⟩, h1⟩, h2⟩, h3⟩ => ⟨hI, ?_⟩)))
  · simp only [pyeval, Except.ok.injEq] at h1
    simp [pyeval, effMaxHoldPower, h1]
  · simp only [pyeval, Except.ok.injEq] at h1 h2
    simp [pyeval, effMaxHoldPower, h1, h2]
  · simp only [pyeval, Except.ok.injEq] at h1 h2 h3
    simp [pyeval, effMaxHoldPower, h1, h2, h3]
  · simp only [pyeval, Except.ok.injEq] at h1 h2 h3
    simp [effMaxHoldPower, h0, h1, h2, h3]

/-- **pulse length**: either raises or returns an int ≥ 0 which, when max_pulse_ms is configured, is not above it -/
theorem pulse_ms_sound (c : Ctx) :
    Triple c (fun _ => True) get_and_verify_pulse_ms (fun _ => False)
      (fun v => v.isInt = true ∧ geB v 0 = true ∧
        ((c.cfg "max_pulse_ms").truthy = true → pyCmp ">" v (c.cfg "max_pulse_ms") = .ok false)) :=
  ms_sound c "pulse_ms" "_pulse_ms" "max_pulse_ms"

/-- **timed-enable length**: either raises or returns an int ≥ 0, not above max_hold_duration when that is configured -/
theorem timed_enable_ms_sound (c : Ctx) :
    Triple c (fun _ => True) get_and_verify_timed_enable_ms (fun _ => False)
      (fun v => v.isInt = true ∧ geB v 0 = true ∧
        ((c.cfg "max_hold_duration").truthy = true → pyCmp ">" v (c.cfg "max_hold_duration") = .ok false)) :=
  ms_sound c "timed_enable_ms" "_timed_enable_ms" "max_hold_duration"

/-- the four theorems above as one fact about the functions the model calls: whatever a request passes in, what comes
back from `get_and_verify_*` is inside the coil's limits -/
theorem verify_sound (c : Ctx) : VerifySound c :=
  ⟨fun _ _ h => call_of_triple _ _ (pulse_ms_sound c) h, fun _ _ h => call_of_triple _ _ (pulse_power_sound c) h,
   fun _ _ h => call_of_triple _ _ (hold_power_sound c) h, fun _ _ h => call_of_triple _ _ (timed_enable_ms_sound c) h⟩

/-- `timed_enable(...)`: all four parameters are verified before the single platform command is built -/
theorem timedEnable_cmds (c : Ctx) (s s' : Driver.St) (te hp ms pw : PyVal) (cmds : List Cmd)
    (h : doTimedEnable c s te hp ms pw = .ok (s', cmds)) : ∀ cmd ∈ cmds, CmdOK c cmd :=
  (doTimedEnable_outcome id h).cmdOK (verify_sound c)

/-- `_pulse_now` with verified values emits a hardware pulse, a re-verified timed enable, or the software-timed
enable whose hold power is the verified pulse power -/
theorem pulseNow_cmds (c : Ctx) (s s' : Driver.St) (pm pp : PyVal) (cmds : List Cmd) (hd : DurOK c pm) (hp : PowerOK c pp)
    (h : pulseNow c s pm pp = .ok (s', cmds)) : ∀ cmd ∈ cmds, CmdOK c cmd :=
  (pulseNow_outcome id h).cmdOK ⟨verify_sound c, hd, hp⟩

/-- every platform command built by one `pulse / enable / timed_enable / disable` request — with or without
`max_wait_ms` — respects the limits: pulse length within max_pulse_ms, powers in [0,1] and within max_pulse_power / the
effective hold limit, and a permanent enable never with hold power 0 — for every configuration and every parameter
value; and a call that the PSU delays is stored with verified arguments only -/
theorem op_cmds_within_limits (c : Ctx) (s s' : Driver.St) (op : Op) (cmds : List Cmd) (hs : PendsOK c s)
    (h : doOp c s op = .ok (s', cmds)) : PendsOK c s' ∧ ∀ cmd ∈ cmds, CmdOK c cmd :=
  have o := doOp_outcome id h
  ⟨o.pendsOK (verify_sound c) hs, o.cmdOK (verify_sound c)⟩

/-- the whole command log of any sequence of requests, clock advances and timer firings -/
def runOps (c : Ctx) : Driver.St → List Op → List (Nat × Cmd)
  | _, [] => []
  | s, op :: rest => (step c s op).2.2 ++ runOps c (step c s op).1 rest

/-- **C08, command log**: for every coil configuration, every starting state whose pending calls are verified (the
initial state has none) and every sequence of pulse / enable / timed_enable / disable requests with arbitrary parameters,
with or without `max_wait_ms` and whatever the PSU answers, interleaved with clock advances and with timers fired one by
one in ANY order the event loop may choose (`fire`), every command that reaches the platform driver — at once, from a
software timer, or from a PSU-delayed `_pulse_now` / `_enable_now` — respects the limits. -/
theorem cmd_within_limits (c : Ctx) (s : Driver.St) (ops : List Op) (hs : PendsOK c s) :
    ∀ tc ∈ runOps c s ops, CmdOK c tc.2 := by
  induction ops generalizing s with
  | nil => simp [runOps]
  | cons op rest ih =>
    intro tc h
    simp only [runOps, List.mem_append] at h
    have h1 := step_cmds (verify_sound c) s op hs
    rcases h with h | h
    · exact h1.2 tc h
    · exact ih _ h1.1 tc h

def runState (c : Ctx) : Driver.St → List Op → Driver.St
  | s, [] => s
  | s, op :: rest => runState c (step c s op).1 rest

/-- the invariant of every reachable state: a software pulse has its timer, a held coil has its watchdog, and no
registered timer has been missed -/
def Inv (c : Ctx) (s : Driver.St) : Prop := SInv c s ∧ NoOverdue s

theorem init_inv (c : Ctx) : Inv c {} := by
  refine ⟨⟨?_, ?_, ?_⟩, ?_⟩ <;> simp [Pre, LimitInv, LimHold, NoOverdue, dues]

theorem runState_inv (c : Ctx) (ops : List Op) : ∀ s, Inv c s → Inv c (runState c s ops) := by
  induction ops with
  | nil => intro s h; exact h
  | cons op rest ih => intro s h; exact ih _ (step_inv c s op h.1 h.2)

/-- one harness step (request + everything due, a clock advance past any number of deadlines, or one timer fired out of
several that are due) keeps the software-pulse invariant: a coil switched on by a software-timed pulse has its switch-off
timer pending and not missed -/
theorem step_keeps_soft_timer (c : Ctx) (s : Driver.St) (op : Op) (h : Inv c s) : TimerInv (step c s op).1 :=
  let h1 := step_inv c s op h.1 h.2
  timerInv_of _ h1.1.1 h1.2

/-- **C08, software-timed pulses**: after every history of requests (immediate or delayed by the PSU), clock advances
and timer firings in any order, whenever the coil is on because of a software-timed pulse, its `timed_disable` timer is
registered and its deadline has not passed — so the pulse cannot outlive its timer "whatever else happens in between"
(other pulses, enables, disables, the hold-limit timer firing, delayed calls arriving, same-instant coincidences). -/
theorem soft_pulse_always_has_timer (c : Ctx) (ops : List Op) : TimerInv (runState c {} ops) :=
  let h := runState_inv c ops {} (init_inv c)
  timerInv_of _ h.1.1 h.2

/-- … and when the clock reaches that instant the coil is switched off: firing at a time at which `timed_disable`
is due emits `disable` and clears the software-pulse flag -/
theorem soft_timer_fires (s : Driver.St) (d : Nat) (h : s.timedDisable = some d) (hd : d ≤ s.now) :
    Cmd.disable ∈ (fireDue s).2 ∧ (fireDue s).1.softOn = false ∧ (fireDue s).1.timedDisable = none := by
  have h1 : fireTd s = doDisable { s with timedDisable := none } := by simp [fireTd, h, hd]
  unfold fireDue
  rw [h1]
  refine ⟨by simp [doDisable], ?_, ?_⟩ <;> simp [fireLim, doDisable]

/-- the same for the event loop picking that timer explicitly (`fire td`), in whatever order with the other timers -/
theorem soft_timer_fires_explicitly (c : Ctx) (s s' : Driver.St) (o : List Cmd) (h : fire c s .td = some (s', o)) :
    Cmd.disable ∈ o ∧ s'.softOn = false ∧ s'.timedDisable = none := by
  obtain ⟨d, _, h⟩ := fire_eq_some h
  obtain ⟨rfl, rfl⟩ := Prod.mk.inj h
  simp

/-- **C08, hold limit (liveness)**: after every history of requests, clock advances and timer firings, on a coil with
`max_hold_duration` configured, whenever the coil is held on by `_enable_now` (since `t`: the instant the platform
command was sent — for an enable delayed by the PSU that is the moment it is switched ON, not the moment it was
requested), the `enable_limit_reached` timer is registered for exactly `t + max_hold_duration` and that instant has not
passed without the timer running. -/
theorem limit_always_armed (c : Ctx) (ops : List Op) (hmd : (c.cfg "max_hold_duration").truthy = true) (t : Nat)
    (ht : (runState c {} ops).holdSince = some t) :
    (runState c {} ops).limitDue = some (t + secsToMs (c.cfg "max_hold_duration")) ∧
      (runState c {} ops).now ≤ t + secsToMs (c.cfg "max_hold_duration") := by
  have h := runState_inv c ops {} (init_inv c)
  have h1 := h.1.2.1 hmd t ht
  exact ⟨h1, h.2 _ ((mem_dues _ _).2 (Or.inr (Or.inl h1)))⟩

/-- … and when the event loop runs that timer (alone or in any order with others due at the same instant) the coil is
switched off and the ghost `holdSince` is cleared -/
theorem limit_timer_disables (c : Ctx) (s s' : Driver.St) (o : List Cmd) (h : fire c s .lim = some (s', o)) :
    Cmd.disable ∈ o ∧ s'.holdSince = none ∧ s'.limitDue = none := by
  obtain ⟨d, _, h⟩ := fire_eq_some h
  obtain ⟨rfl, rfl⟩ := Prod.mk.inj h
  simp

/-- the ghost is honest: `_enable_now` sends exactly one permanent `enable` and marks the coil held from now (or keeps an
earlier mark); `disable` sends `disable` and clears the mark — `holdSince` is set exactly where the platform is told to
hold and cleared exactly where it is told to release -/
theorem hold_ghost_follows_commands (c : Ctx) (s : Driver.St) (pm pp h : PyVal) :
    (enableNow c s pm pp h).2 = [.enable pp pm h false] ∧
      (enableNow c s pm pp h).1.holdSince = some (s.holdSince.getD s.now) ∧
      (doDisable s).2 = [.disable] ∧ (doDisable s).1.holdSince = none := by
  rw [enableNow_eq]
  exact ⟨rfl, rfl, rfl, rfl⟩

/-- **seeded class C08-limit-armed-early**: an enable that the PSU delays is limited by `max_hold_duration` from the
moment it is switched on.  When the delayed `_enable_now` runs at `t` (the event loop fires the pending call) on a coil
that was not held, the watchdog is armed for `t + max_hold_duration` at that moment — a `disable` that came in between
request and switch-on cannot have removed it. -/
theorem delayed_enable_limited_from_switch_on (c : Ctx) (s s' : Driver.St) (i d : Nat) (pm pp hp : PyVal) (o : List Cmd)
    (hmd : (c.cfg "max_hold_duration").truthy = true) (hi : Inv c s) (hp' : s.pend[i]? = some (.enableNow d pm pp hp))
    (hfree : s.holdSince = none) (h : fire c s (.pend i) = some (s', o)) :
    o = [.enable pp pm hp false] ∧ s'.holdSince = some s'.now ∧
      s'.limitDue = some (s'.now + secsToMs (c.cfg "max_hold_duration")) := by
  have hl : s.limitDue = none := by
    cases hx : s.limitDue with
    | none => rfl
    | some x => have := hi.1.2.2 (by simp [hx]); simp [hfree] at this
  obtain ⟨d, _, h⟩ := fire_eq_some h
  simp only [runTimer, hp', runPend, enableNow_eq] at h
  obtain ⟨rfl, rfl⟩ := Prod.mk.inj h
  simp [hmd, hl, hfree]

/-- non-vacuity: a 300 ms software pulse on a coil with nothing configured, then 125 ms, then another, then 400 ms:
one enable, one re-armed timer, one disable exactly 300 ms after the second pulse -/
example :
    let c : Ctx := ⟨fun k => if k = "max_pulse_power" then .flt 1000000 else .none,
                    fun k => if k = "max_pulse" then .int 255 else .int 10⟩
    (runOps c {} [.pulse (.int 300) .none, .advance 125, .pulse (.int 300) .none, .advance 400]).map (fun tc => tc.1)
      = [0, 125, 425] := by decide +kernel

/-- non-vacuity (PSU): on a coil with max_hold_duration 0.5 s, `enable(max_wait_ms=500)` which the PSU delays by 60 ms,
a `disable` inside the wait (at 0), then the clock: the enable arrives at 60, is held since 60 and is switched off by the
watchdog at 560 = 60 + 500 (not at 500 = request + 500, and not never) -/
example :
    let c : Ctx := ⟨fun k => if k = "allow_enable" then .bool true else if k = "max_hold_duration" then .flt 500000
                      else if k = "max_pulse_power" then .flt 1000000 else .none,
                    fun k => if k = "max_pulse" then .int 255 else .int 10⟩
    (runOps c {} [.enableW .none .none .none (.int 500) (.flt 60000000), .disable, .advance 1000]).map
        (fun tc => (tc.1, match tc.2 with | .disable => 0 | .enable _ _ _ _ => 1 | _ => 2))
      = [(0, 0), (60, 1), (560, 0)] := by decide +kernel

/-! ## The hand model does exactly what the source does

`Gen/DriverOps.lean` holds `Driver.pulse / enable / timed_enable / disable / _pulse_now / _enable_now /
_enable_limit_reached / _notify_psu_and_get_wait_ms / event_*` as translated from `mpf/devices/driver.py` on this run.
The theorems below tie `Model/Driver.lean` (about which everything above is proved) to that text. -/

/-- what configuration validation and the platform guarantee about the two values the timers are computed from -/
def ConfigSane (c : Ctx) : Prop :=
  (c.env "max_pulse").num.isSome = true ∧ NumOrNone (c.cfg "max_hold_duration")

theorem vPulseMs_int (c : Ctx) : ∀ x v, vPulseMs c x = .ok v → v.isInt = true :=
  fun _ _ h => (call_of_triple _ _ (pulse_ms_sound c) h).1

theorem vTimedMs_int (c : Ctx) : ∀ x v, vTimedMs c x = .ok v → v.isInt = true :=
  fun _ _ h => (call_of_triple _ _ (timed_enable_ms_sound c) h).1

/-- the translated method, the keyword arguments a request of the model stands for, and — for a request with
`max_wait_ms` — the PSU's answer the model took as its input -/
def srcOf : Op → Option (List ESt × List (String × PyVal) × Option PyVal)
  | .pulse ms pw => some (Gen.DriverOps.pulse, [("pulse_ms", ms), ("pulse_power", pw)], none)
  | .enable ms pw hp => some (Gen.DriverOps.enable, [("pulse_ms", ms), ("pulse_power", pw), ("hold_power", hp)], none)
  | .timedEnable te hp ms pw => some (Gen.DriverOps.timed_enable,
      [("timed_enable_ms", te), ("hold_power", hp), ("pulse_ms", ms), ("pulse_power", pw)], none)
  | .disable => some (Gen.DriverOps.disable, [], none)
  | .pulseW ms pw mw w => some (Gen.DriverOps.pulse, [("pulse_ms", ms), ("pulse_power", pw), ("max_wait_ms", mw)], some w)
  | .enableW ms pw hp mw w => some (Gen.DriverOps.enable,
      [("pulse_ms", ms), ("pulse_power", pw), ("hold_power", hp), ("max_wait_ms", mw)], some w)
  | .timedEnableW te hp ms pw mw => some (Gen.DriverOps.timed_enable,
      [("timed_enable_ms", te), ("hold_power", hp), ("pulse_ms", ms), ("pulse_power", pw), ("max_wait_ms", mw)], none)
  | .advance _ => none
  | .fire _ => none

/-- the environment's answers agree with the model's input: the PSU's `get_wait_time_for_pulse` returns `w` -/
def PsuOK (ora : Oracle) : Option PyVal → Prop
  | none => True
  | some w => PsuAnswers ora w

/-- **C08, tie to the source**: for every configuration, every state of the software timers and the pending calls, every
request — with or without `max_wait_ms` — and every argument value (None, bool, int, float, NaN, str), and whatever the
PSU (its wait time `w` is arbitrary: zero, positive, fractional, negative, not a number) and the other collaborators
answer, running the *translated source* of the request and folding its calls on the platform driver and the delay manager
over the state gives exactly what the hand model computes: the same accept/refuse verdict, the same platform commands in
the same order with the same powers and durations, the same `timed_disable` and `enable_limit_reached` deadlines, and the
same PSU-delayed calls (callback, deadline, keyword arguments). -/
theorem requests_refine_source (c : Ctx) (ora : Oracle) (s : Driver.St) (op : Op) (prog : List ESt)
    (args : List (String × PyVal)) (w : Option PyVal) (hc : ConfigSane c) (hop : srcOf op = some (prog, args, w))
    (hw : PsuOK ora w) :
    hand s (doOp c s op) = gen s (callE c ora prog args) := by
  have hv := verify_sound c
  -- `srcOf` is `none` for `advance` and `fire`: those two cases close at `hop`
  cases op <;> simp only [srcOf, Option.some.injEq, Prod.mk.injEq, reduceCtorEq] at hop <;> obtain ⟨rfl, rfl, rfl⟩ := hop
  case pulse ms pw =>
    exact refines_of_run ((pulse_run (w := .none) hv hc.1 _ (.inl (by simp [pyeval]))).trans (by simp [pyeval, doOp_pulse c s ms pw .none]))
  case enable ms pw hp =>
    exact refines_of_run ((enable_run (w := .none) hc.2 _ (.inl (by simp [pyeval]))).trans (by simp [pyeval, doOp_enable c s ms pw hp .none]))
  case timedEnable te hp ms pw => exact refines_of_run ((timed_enable_run hv _).trans (by simp [pyeval, doOp]))
  case disable => exact refines_of_run (disable_run c ora s _ [])
  case pulseW ms pw mw w' => exact refines_of_run ((pulse_run hv hc.1 _ (.inr hw)).trans (by simp [pyeval]))
  case enableW ms pw hp mw w' => exact refines_of_run ((enable_run hc.2 _ (.inr hw)).trans (by simp [pyeval]))
  case timedEnableW te hp ms pw mw => exact refines_of_run ((timed_enable_run hv _).trans (by simp [pyeval, doOp]))

/-- **a refused request does nothing** (in the source): when the translated `pulse / enable / timed_enable` raises
(limit exceeded, negative or ill-typed value, hold power 0, a PSU answer that cannot be compared), none of the calls it
made before raising touched the platform driver, the two timers or the pending calls — nothing was clamped, passed
through or left behind. -/
theorem refused_request_has_no_effect_in_source (c : Ctx) (ora : Oracle) (s : Driver.St) (op : Op) (prog : List ESt)
    (args : List (String × PyVal)) (w : Option PyVal) (hc : ConfigSane c) (hop : srcOf op = some (prog, args, w))
    (hw : PsuOK ora w) (e : Err) (hr : (callE c ora prog args).2 = .error e) :
    (callE c ora prog args).1.foldl (applyEff s.now) ⟨s.timedDisable, s.limitDue, [], s.pend, false⟩ =
      ⟨s.timedDisable, s.limitDue, [], s.pend, false⟩ := by
  have h := requests_refine_source c ora s op prog args w hc hop hw
  unfold gen at h
  rw [hr] at h
  cases hd : doOp c s op with
  | error x => rw [hd] at h; simp only [hand, Prod.mk.injEq] at h; exact h.2.symm
  | ok r => rw [hd] at h; simp [hand] at h

/-- **the PSU-delayed callbacks** `_pulse_now(pulse_ms, pulse_power)` / `_enable_now(pulse_ms, pulse_power, hold_power)`,
run by the delay manager with the stored keyword arguments, do what `runPend` of the model does: same commands, same
timers (the hold limit armed by `_enable_now` itself, at the time it runs), same verdict. -/
theorem delayed_calls_refine_source (c : Ctx) (ora : Oracle) (s : Driver.St) (pm pp hp : PyVal) (hc : ConfigSane c)
    (hpm : pm.isInt = true) :
    hand s (pulseNow c s pm pp) =
      gen s (callE c ora Gen.DriverOps.p_pulse_now [("pulse_ms", pm), ("pulse_power", pp)]) ∧
    hand s (.ok (enableNow c s pm pp hp)) =
      gen s (callE c ora Gen.DriverOps.p_enable_now [("pulse_ms", pm), ("pulse_power", pp), ("hold_power", hp)]) :=
  ⟨refines_of_run ((pulse_now_run (verify_sound c) hc.1 _ (by simpa [pyeval] using hpm)).trans (by simp [pyeval])),
   refines_of_run ((enable_now_run hc.2 _).trans (by simp [pyeval]))⟩

/-- **control events** (`event_pulse / event_enable / event_timed_enable / event_disable`, which carry arbitrary
parameters from configs and shows) do what the methods do: same commands, same timers, same verdict. -/
theorem control_events_refine_source (c : Ctx) (ora : Oracle) (s : Driver.St) (a b h t m : PyVal) :
    gen s (callE c ora Gen.DriverOps.event_pulse [("pulse_ms", a), ("pulse_power", b), ("max_wait_ms", m)]) =
      gen s (callE c ora Gen.DriverOps.pulse [("pulse_ms", a), ("pulse_power", b), ("max_wait_ms", m)]) ∧
    gen s (callE c ora Gen.DriverOps.event_enable [("pulse_ms", a), ("pulse_power", b), ("hold_power", h)]) =
      gen s (callE c ora Gen.DriverOps.enable [("pulse_ms", a), ("pulse_power", b), ("hold_power", h)]) ∧
    gen s (callE c ora Gen.DriverOps.event_timed_enable
        [("timed_enable_ms", t), ("hold_power", h), ("pulse_ms", a), ("pulse_power", b), ("max_wait_ms", m)]) =
      gen s (callE c ora Gen.DriverOps.timed_enable
        [("timed_enable_ms", t), ("hold_power", h), ("pulse_ms", a), ("pulse_power", b), ("max_wait_ms", m)]) ∧
    gen s (callE c ora Gen.DriverOps.event_disable []) = gen s (callE c ora Gen.DriverOps.disable []) :=
  ⟨gen_event (by simp [pyeval]), gen_event (by simp [pyeval]), gen_event (by simp [pyeval]), gen_event rfl⟩

/-- **the hold-limit callback** `_enable_limit_reached` (and the `timed_disable` callback, which is `disable` itself)
switches the coil off and leaves no limit timer behind, as `fireDue` of the model does. -/
theorem limit_callback_refines_source (c : Ctx) (ora : Oracle) (s : Driver.St) :
    hand s (.ok (doDisable s)) = gen s (callE c ora Gen.DriverOps.p_enable_limit_reached []) :=
  refines_of_run (limit_reached_run _)

/-- non-vacuity: a sane configuration exists, and on it the translated `pulse(300)` on a platform whose hardware pulses
stop at 255 ms arms the 300 ms software timer and sends the software-timed enable — computed by running the translated
source, not the hand model -/
example :
    let c : Ctx := ⟨fun k => if k = "max_pulse_power" then .flt 1000000 else .none,
                    fun k => if k = "max_pulse" then .int 255 else .int 10⟩
    ConfigSane c ∧
    (gen {} (callE c (fun _ => .none) Gen.DriverOps.pulse [("pulse_ms", .int 300)])) =
      (true, ⟨some 300, none, [.enable (.flt 1000000) (.int 0) (.flt 1000000) false], [], false⟩) := by
  refine ⟨⟨by decide, Or.inl (by decide)⟩, by decide +kernel⟩

/-- non-vacuity (PSU): the translated `enable(max_wait_ms=500)` with a PSU that answers 60 ms sends nothing to the platform
and arms no timer, it leaves one delayed `_enable_now` due at 60 with the verified arguments — computed by running the
translated source -/
example :
    let c : Ctx := ⟨fun k => if k = "allow_enable" then .bool true else if k = "max_pulse_power" then .flt 1000000 else .none,
                    fun k => if k = "max_pulse" then .int 255 else .int 10⟩
    (gen {} (callE c (fun _ => .flt 60000000) Gen.DriverOps.enable [("max_wait_ms", .int 500)])) =
      (true, ⟨none, none, [], [.enableNow 60 (.int 10) (.flt 1000000) (.flt 1000000)], false⟩) := by
  decide +kernel

/-- **entry-point closure** (regenerated from the whole source tree on every run): the only places under `mpf/`
(outside the platform packages) that actuate a platform driver directly are the three `Driver` paths modelled above
(`_pulse_now`, `_enable_now`, `timed_enable` — every coil device, coil player, ejector, flipper `sw_flip` and dual-wound
coil goes through them), the software-EOS repulse manager (which re-issues the verified settings of an installed rule,
C10) and `DigitalOutput` (not a coil: fixed power 1.0, no coil limits configured).  A new direct call site anywhere
else breaks this theorem. -/
theorem all_call_sites_known :
    ∀ site ∈ MpfVerif.Gen.HwDriverCallSites.table, site ∈
      [("mpf/devices/driver.py", "_enable_now", "enable"), ("mpf/devices/driver.py", "_pulse_now", "enable"),
       ("mpf/devices/driver.py", "_pulse_now", "pulse"), ("mpf/devices/driver.py", "timed_enable", "timed_enable"),
       ("mpf/core/platform_controller.py", "_repulse_on_eos_open", "enable"),
       ("mpf/core/platform_controller.py", "_repulse_on_eos_open", "pulse"),
       ("mpf/devices/digital_output.py", "enable", "enable"), ("mpf/devices/digital_output.py", "pulse", "pulse")] := by
  decide +kernel

end MpfVerif.C08
