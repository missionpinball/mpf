import MpfVerif.Lemmas.BallLedgerStep
import MpfVerif.Lemmas.BallPromise
/-!
# C05 — ball requests make progress: no lost or stuck ejects (PARTIAL: theorems about the ledger protocol)

Liveness of the real coroutines is explored by the harness (every case is run to rest and checked for idle devices,
served requests and retry/broken reports); the theorems below are about the eject loop of the ledger.
-/
namespace MpfVerif.C05
open MpfVerif.BallLedger

theorem creditReturn_fields (s : St) (d : Nat) :
    (creditReturn s d).phase = s.phase ∧ (creditReturn s d).cur = s.cur ∧ (creditReturn s d).tries = s.tries ∧
    (creditReturn s d).queue = s.queue ∧ (creditReturn s d).failed = s.failed ∧
    (creditReturn s d).brokenPosted = s.brokenPosted := by
  unfold creditReturn; split <;> simp

/-- **retry or report, retry side**: a failed eject (ball came back, or never left) that is accepted as *retryable*
carries the next attempt number `tries + 1`, is only possible while attempts remain (`max_eject_attempts = 0` or
`n < max`), records that number, and excludes the `broken` report in the same state. -/
theorem retry_or_report (c : Cfg) (s s' : St) (d n : Nat)
    (h : step c s (.ejectFailedReturn d n) = some s' ∨ step c s (.ejectFailedStuck d n) = some s') :
    n = s.tries.getD d 0 + 1 ∧ (c.maxOf d = 0 ∨ n < c.maxOf d) ∧ s'.tries = setAt s.tries d n ∧
    s'.failed = setAt s.failed d true ∧ step c s (.broken d) = none := by
  suffices key : ∀ ph, failCommon c s d n ph = some s' → _ from h.elim (key _) (key _)
  intro ph hf
  obtain ⟨t, hcu, -, -, -, hn, hm, hs⟩ := failCommon_eq_some hf
  refine ⟨hn.symm, hm, ?_, ?_, ?_⟩
  · rcases hs with ⟨-, -, rfl⟩ | ⟨-, rfl⟩ <;> rfl
  · rcases hs with ⟨-, -, rfl⟩ | ⟨-, rfl⟩ <;> rfl
  · simp only [step, hcu]
    exact if_neg fun hg => by guards hg; omega

/-- the retry that follows must carry exactly the recorded number: `ball_eject_attempt(num_attempts = k)` is only
accepted with `k = tries` -/
theorem retry_carries_recorded_number (c : Cfg) (s s' : St) (d t k : Nat) (h : step c s (.attempt d t k) = some s') :
    k = s.tries.getD d 0 ∧ s.ph d = .waitTarget ∧ s' = s := by
  obtain ⟨-, hph, -, hn, rfl⟩ := attempt_eq_some h
  exact ⟨hn.symm, hph, rfl⟩

/-- **retry or report, report side**: `broken` is enabled only when the failing attempt was the last one
(`tries + 1 = max_eject_attempts > 0`) and has not been reported before; it marks the report, puts the device in
`eject_broken`, and excludes a retry in the same state. -/
theorem broken_reported_at_max (c : Cfg) (s s' : St) (d : Nat) (h : step c s (.broken d) = some s') :
    c.maxOf d > 0 ∧ s.tries.getD d 0 + 1 = c.maxOf d ∧ s.brokenPosted.getD d 0 = 0 ∧
    s'.brokenPosted = setAt s.brokenPosted d 1 ∧ s'.phase = setAt s.phase d .broken ∧
    ∀ n, step c s (.ejectFailedReturn d n) = none ∧ step c s (.ejectFailedStuck d n) = none := by
  obtain ⟨t, hcu, -, -, -, -, hm, hn, hp, hs⟩ := broken_eq_some h
  have hno : ∀ n ph, failCommon c s d n ph = none := fun n ph => by
    simp only [failCommon, hcu]
    exact if_neg fun hg => by guards hg; omega
  have hs : s'.brokenPosted = setAt s.brokenPosted d 1 ∧ s'.phase = setAt s.phase d .broken := by
    rcases hs with ⟨-, rfl⟩ | ⟨-, -, -, rfl⟩ <;> exact ⟨rfl, rfl⟩
  exact ⟨hm, hn, hp, hs.1, hs.2, fun n => ⟨hno n _, hno n _⟩⟩

/-- **broken exactly once / no silent hang**: a device in `eject_broken` takes no further eject-loop transition — in
particular `broken` cannot be reported a second time and no attempt follows it. -/
theorem broken_is_terminal (c : Cfg) (s : St) (d : Nat) (hd : s.ph d = .broken) (t n : Nat) :
    step c s (.broken d) = none ∧ step c s (.attempt d t n) = none ∧ step c s (.ejectStart d t) = none ∧
    step c s (.ballLeft d) = none ∧ step c s (.waitTarget d) = none ∧ step c s (.waitBall d) = none ∧
    step c s (.ejectFailedReturn d n) = none ∧ step c s (.ejectFailedStuck d n) = none ∧
    step c s (.confirm d t) = none ∧ step c s (.lateConfirm d t) = none := by
  -- each of these operations has `s.ph d == p`, `p ≠ broken`, among its guards
  refine ⟨?_, ?_, ?_, ?_, ?_, ?_, ?_, ?_, ?_, ?_⟩ <;> simp [step, failCommon, hd] <;> (try split) <;> simp

/-- **no stuck phase**: in the three phases in which a device waits for the physical world, a timeout transition is
always enabled (given the structural facts that hold after `ejectStart`): `ejecting` can always fail as stuck or break,
`ball_left` can always time out into `failed_confirm`. -/
theorem no_stuck_state (c : Cfg) (s : St) (d : Nat) (hd : d < c.n) (hp : s.ph d = .ballLeft) :
    ∃ s', step c s (.confirmTimeout d) = some s' ∧ s'.phase = setAt s.phase d .failedConfirm :=
  ⟨{ s with phase := setAt s.phase d .failedConfirm }, by simp [step, hd, hp], rfl⟩

/-- (second argument: failure posted) a posted failure ranks above every phase of an attempt, so taking the eject up again goes down -/
def rank : Phase → Bool → Nat
  | .ejecting, true => 7 | .failedConfirm, true => 7 | .idle, _ => 7
  | .waitBall, _ => 6 | .waitTarget, _ => 5 | .ejecting, false => 4 | .ballLeft, _ => 3 | .failedConfirm, false => 2
  | .broken, _ => 0

/-- work left in device `d`: queued ejects (each worth more than a whole eject with all its retries), plus for the
current eject the remaining attempts and the phase inside the attempt -/
def devMeasure (c : Cfg) (s : St) (d : Nat) : Nat :=
  (s.queue.getD d []).length * (8 * c.maxOf d + 8) +
  (match s.cu d with
   | none => 0
   | some _ => (c.maxOf d - s.tries.getD d 0) * 8 + rank (s.ph d) (s.failed.getD d false))

/-- **progress measure**: every step *inside* an eject attempt — the coil firing, the ball leaving, the confirm
window closing — strictly decreases the work left in the device; -/
theorem progress_measure (c : Cfg) (s s' : St) (d t : Nat) (op : Op)
    (hop : op = .ejectStart d t ∨ op = .ballLeft d ∨ op = .confirmTimeout d)
    (hl : d < s.phase.length) (hf : s.failed.getD d false = false)
    (hcur : (s.cu d).isSome) (h : step c s op = some s') :
    devMeasure c s' d < devMeasure c s d := by
  obtain ⟨u, hcu⟩ := Option.isSome_iff_exists.1 hcur
  have key : ∀ p, rank p false < rank (s.ph d) false →
      devMeasure c { s with phase := setAt s.phase d p } d < devMeasure c s d := by
    intro p hr
    simp only [devMeasure, St.cu, St.ph, getD_setAt, hl, and_self, if_true, hf] at hcu hr ⊢
    simp only [hcu]
    -- (`omega` stops at the annotation the `match` in `devMeasure` leaves on its branch)
    show _ + (_ + _) < _ + (_ + _)
    omega
  rcases hop with rfl | rfl | rfl
  · obtain ⟨-, -, -, hph, -, -, -, -, rfl⟩ := ejectStart_eq_some h
    exact key _ (by rw [hph]; decide)
  · obtain ⟨_, -, -, -, -, hph, -, -, rfl⟩ := ballLeft_eq_some h
    exact key _ (by rw [hph]; decide)
  · obtain ⟨-, hph, rfl⟩ := confirmTimeout_eq_some h
    exact key _ (by rw [hph]; decide)

/-- — and a retryable failure uses up one of the remaining attempts: with `max_eject_attempts > 0` it decreases the
work left although the attempt starts over, so an eject cannot loop for ever. -/
theorem progress_measure_failure (c : Cfg) (s s' : St) (d n : Nat)
    (hl : d < s.tries.length ∧ d < s.failed.length) (hmax : c.maxOf d > 0)
    (h : step c s (.ejectFailedReturn d n) = some s' ∨ step c s (.ejectFailedStuck d n) = some s') :
    devMeasure c s' d < devMeasure c s d := by
  suffices key : ∀ ph, (ph = .ejecting ∨ ph = .failedConfirm) → failCommon c s d n ph = some s' → _ from
    h.elim (key _ (.inr rfl)) (key _ (.inl rfl))
  intro ph hph hfc
  obtain ⟨t, hcu, -, hp, hnf, hn, hm, hs⟩ := failCommon_eq_some hfc
  have h7 : rank ph true = 7 := by rcases hph with rfl | rfl <;> rfl
  have h2 : 2 ≤ rank ph false := by rcases hph with rfl | rfl <;> decide
  have key : devMeasure c { s with tries := setAt s.tries d n, failed := setAt s.failed d true } d <
      devMeasure c s d := by
    simp only [devMeasure, St.cu, St.ph, getD_setAt, hl.1, hl.2, and_self, if_true] at hcu hp ⊢
    simp only [hcu, hp, hnf, h7]
    show _ + (_ + _) < _ + (_ + _)
    omega
  rcases hs with ⟨-, -, rfl⟩ | ⟨-, rfl⟩ <;> exact key

/-- **a manual eject with no request is adopted, not lost**: when the player lets go of a ball that rests in an idle mechanical
device (nothing queued, no eject in progress), the enabled transition `manualLeft d t` moves the ball's *claim* from the
device to the target (`available_balls` −1 / +1, so the sum over all nodes is unchanged), makes the device track an eject
towards `t` (`_current_target`), registers the ball as incoming at `t`, and keeps it in the belief ledger (`balls`, `counted`,
in-flight and `num_balls_known` unchanged: it is still counted in the device until the eject is confirmed).  On the
unrepaired code the claim was duplicated instead of moved (fixed: 89ecfd4). -/
theorem manual_eject_adopted (c : Cfg) (s s' : St) (d t : Nat) (hne : d ≠ t) (hla : s.avail.length = c.n)
    (hlc : s.cur.length = c.n) (hli : s.inc.length = c.n) (h : step c s (.manualLeft d t) = some s') :
    s'.a d = s.a d - 1 ∧ s'.a t = s.a t + 1 ∧ total s'.avail = total s.avail ∧ s'.cu d = some t ∧
    s'.incOf t = s.incOf t ++ [d] ∧ s'.balls = s.balls ∧ s'.counted = s.counted ∧ s'.inflight = s.inflight ∧
    s'.known = s.known ∧ s'.queue = s.queue ∧ s'.reqs = s.reqs := by
  obtain ⟨hd, ht, -, -, -, -, -, -, -, -, -, rfl⟩ := manualLeft_eq_some h
  have hd' : d < s.avail.length := hla ▸ hd
  have ht' : t < s.avail.length := hla ▸ ht
  refine ⟨?_, ?_, total_move _ hd' ht', ?_, ?_, rfl, rfl, rfl, rfl, rfl, rfl⟩
  · simp only [St.a, getD_bump, length_bump, hd', hne, false_and, and_self, if_true, if_false]
    rfl
  · simp only [St.a, getD_bump, length_bump, ht', Ne.symm hne, false_and, and_self, if_true, if_false]
  · exact (getD_setAt ..).trans (if_pos ⟨rfl, hlc ▸ hd⟩)
  · exact (getD_setAt ..).trans (if_pos ⟨rfl, hli ▸ ht⟩)

/-- **no stuck manual eject**: while such an adopted eject waits for its confirmation (device still `idle`, target set) the
confirm window can always close (`manualTimeout`), after which the ordinary late-confirm / ball-returned transitions apply; -/
theorem manual_eject_can_time_out (c : Cfg) (s : St) (d t : Nat) (hd : d < c.n) (hpf : c.isPf d = false)
    (hm : s.man d = true) (hp : s.ph d = .idle) (hc : s.cu d = some t) (hb : s.b d > 0) :
    ∃ s', step c s (.manualTimeout d) = some s' ∧ s'.phase = setAt s.phase d .failedConfirm ∧ s'.cur = s.cur :=
  ⟨{ s with phase := setAt s.phase d .failedConfirm, balls := bump s.balls d (-1), inflight := s.inflight + 1 },
   by simp [step, hd, hpf, hm, hp, hc, hb], rfl, rfl⟩

/-- — and when the plunged ball comes back (`manualReturn`) the request is **kept and retried**: the device's target and its
queue are unchanged, the attempt counter starts at 0, and the eject loop's `waitTarget` (which credits the ball back to the
device) is enabled right away.  On the unrepaired code the device hung here for ever with its count lock held (fixed: ab21ba0). -/
theorem manual_return_is_retried (c : Cfg) (s s' : St) (d : Nat) (hlf : s.failed.length = c.n) (hlt : s.tries.length = c.n)
    (h : step c s (.manualReturn d) = some s') :
    s'.cur = s.cur ∧ s'.tries.getD d 0 = 0 ∧ s'.queue = s.queue ∧ (step c s' (.waitTarget d)).isSome = true := by
  obtain ⟨t, -, hd, -, -, hpf, -, hph, -, -, hbc, rfl⟩ := manualReturn_eq_some h
  refine ⟨rfl, (getD_setAt ..).trans (if_pos ⟨rfl, hlt ▸ hd⟩), rfl, ?_⟩
  have hfa : (setAt s.failed d true).getD d false = true := (getD_setAt ..).trans (if_pos ⟨rfl, hlf ▸ hd⟩)
  simp only [St.ph, St.b, St.c] at hph hbc
  simp [step, canCredit, St.ph, St.b, St.c, hd, hpf, hph, hbc, hfa, -List.getD_eq_getElem?_getD]

/-- the hypotheses are satisfiable: a ball rests, claimed, in an idle mechanical plunger (node 1, playfield 2); the player
plunges it, the confirm window closes, the ball rolls back, the eject loop takes over and the ball is plunged again -/
example : (run { n := 3, pf := [false, false, true], cap := [3, 1, 0], maxT := [3, 0, 0], edges := [(0, 1), (1, 2)], missing := 2,
                 mech := [false, true, false] }
    (initSt { n := 3, pf := [false, false, true], cap := [3, 1, 0], maxT := [3, 0, 0], edges := [(0, 1), (1, 2)], missing := 2,
              mech := [false, true, false] } [1, 1, 0])
    [.manualLeft 1 2, .manualTimeout 1, .manualReturn 1, .waitTarget 1, .attempt 1 2 0, .ejectStart 1 2, .ballLeft 1,
     .confirm 1 2]).map (fun s => (s.balls, s.avail, s.inflight, s.known, s.delivered)) = some ([1, 0, 1], [1, 0, 1], 0, 2, 1) := by
  decide

/-- the measure is meaningful: a fresh eject of a device with 3 attempts starts at 29 and a first failure leaves 24 -/
example : devMeasure { n := 2, pf := [false, true], cap := [3, 0], maxT := [3, 0], edges := [(0, 1)], missing := 1 }
    { (initSt { n := 2, pf := [false, true], cap := [3, 0], maxT := [3, 0], edges := [(0, 1)], missing := 1 } [1, 0]) with
      cur := [some 1, none], phase := [.waitTarget, .idle] } 0 = 29 := by decide

section Promise
open MpfVerif.BallPromise

/-- **no announced ball is dropped between the announcement and the playfield**: for every history of ball starts,
multiball starts / add-a-balls / shoot-agains, ball saves (with any `eject_delay`) and delay expiries, every ball announced
to the player has either been requested from the playfield (`Playfield.add_ball`) or sits in a delayed `_add_balls` call that
is still pending (`over` counts the balls a multiball asked for beyond what `balls_in_play` could hold: the ledger is an
equation, and in particular `promised ≤ requested + pending`). -/
theorem promises_requested_or_pending (d : Nat) (ops : List BallPromise.Op) (s : BallPromise.St)
    (h : BallPromise.run { delay := d } ops = some s) :
    s.promised + s.over = s.requested + BallPromise.total s.pending :=
  run_inv ops { delay := d } s (by simp [BallPromise.Inv, BallPromise.total]) h

/-- ... hence once no delayed eject is pending, every ball ever announced has been requested for the playfield (from there
on the request is the ball ledger's: `no_stuck_state`, `progress_measure`). -/
theorem all_delays_fired_all_requested (d : Nat) (ops : List BallPromise.Op) (s : BallPromise.St)
    (h : BallPromise.run { delay := d } ops = some s) (hp : s.pending = []) :
    s.promised ≤ s.requested ∧ (s.over = 0 → s.promised = s.requested) := by
  have := promises_requested_or_pending d ops s h
  simp only [hp, BallPromise.total] at this
  omega

/-- a pending delayed eject can always fire (nothing in the ball save disables it), and firing it requests exactly the
balls that were announced with it. -/
theorem pending_save_can_fire (s : BallPromise.St) (k : Nat) (r : List Nat) (h : s.pending = k :: r) :
    BallPromise.step s (.fire k) = some { s with requested := s.requested + k, pending := r } := by
  simp [BallPromise.step, h, removeFirst_head]

/-- **the pending list drains**: letting the pending delays fire one after the other (each fires: C13) is a run of the model
that ends with nothing pending and, from any state satisfying the ledger equation, with `promised + over = requested`. -/
theorem pending_saves_drain (l : List Nat) (s : BallPromise.St) (h : s.pending = l) :
    BallPromise.run s (l.map BallPromise.Op.fire) = some (fireAll s) ∧ (fireAll s).pending = [] ∧
    (s.promised + s.over = s.requested + BallPromise.total s.pending →
      (fireAll s).promised + (fireAll s).over = (fireAll s).requested) := by
  refine ⟨?_, rfl, fun hi => by simpa [fireAll] using hi⟩
  induction l generalizing s with
  | nil =>
    cases s
    cases h
    rfl
  | cons k r ih =>
    simp only [List.map_cons, BallPromise.run, pending_save_can_fire s k r h]
    rw [ih _ rfl]
    simp [fireAll, h, BallPromise.total, Nat.add_assoc]

/-- the seeded defect as a witness: were the delayed eject added under a NAME (a second `delay.add` with that name replaces
the first), two saves inside one eject_delay window would leave one announced ball that is never requested. -/
theorem named_delay_loses_save_witness :
    (runNamed { delay := 2000 } [.save 1, .save 1, .fire 1]).map (fun s => (s.promised, s.requested, s.pending)) =
      some (2, 1, []) := by decide

/-- non-vacuity: ball start, multiball add, two saves inside one window, both delays fire, four balls delivered -/
example : (BallPromise.run { delay := 2000 } [.promise 1, .promise 1, .overask 1, .save 1, .save 1, .fire 1, .fire 1, .deliver, .deliver,
    .deliver, .deliver]).map (fun s => (s.promised, s.over, s.requested, s.pending, s.delivered)) = some (4, 1, 5, [], 4) := by decide

end Promise

end MpfVerif.C05
