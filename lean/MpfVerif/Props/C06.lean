import MpfVerif.Lemmas.Game
/-!
# C06 — Game lifecycle: turns, balls and lifecycle events are well-formed

Property theorems only, about `Model/Game.lean` (the coroutine `Game._run` as a resumable state machine).
`run (start0 b m k) ops` is the state after an arbitrary sequence of resumptions and environment requests (end_ball,
end_game, slam tilt, balls_in_play = n, drains, extra balls, player adds, game starts), for arbitrary balls_per_game `b`,
max_players `m`, num_balls_known `k`; requests that are not enabled are skipped.
-/
namespace MpfVerif.C06
open MpfVerif.Game

/-- The lifecycle trace: after ANY op sequence the emitted events start with game_will_start and every event is one the
grammar allows right after its predecessor (`follows`; after game_ended only a new game_will_start) — i.e. the trace is a
prefix of (game_will_start game_starting game_started turn* game_will_end game_ending game_ended)*; and the coroutine's
pc is the last event emitted. -/
theorem trace_grammar (b m k : Nat) (ops : List Op) :
    okFrom none (tr (run (start0 b m k) ops)) = true ∧ pcOk (run (start0 b m k) ops) :=
  have hI := run_inv step_ginv ops _ (start0_inv b m k)
  ⟨hI.chain, hI.pc⟩

/-- 0 ≤ balls_in_play ≤ num_balls_known, always (Nat gives the lower bound) — with the number of balls known as it is at
that moment (it grows when a ball MPF did not know about is found; op `setKnown`). -/
theorem bip_bounds (b m k : Nat) (ops : List Op) :
    (run (start0 b m k) ops).bip ≤ (run (start0 b m k) ops).known :=
  (run_inv step_ginv ops _ (start0_inv b m k)).bip

/-- Once an end-of-game request has been accepted (`ending` set), no resumption of the coroutine — from any state —
emits `ball_will_start`, and `ending` stays set. -/
theorem no_ball_after_end_request (st st' : St) (he : st.ending = true) (h : step st .resume = some st') :
    (∃ e, tr st' = tr st ++ [e] ∧ e ≠ .bws) ∧ st'.ending = true := by
  obtain ⟨p, e, hs⟩ := resume_spec st st' h
  exact ⟨⟨e, hs.tr, (hs.ending he).1⟩, (hs.ending he).2⟩

/-- A ball ends only for a reason: `ball_will_end` is emitted only when the end-of-ball event is set, and every
resumption emits exactly one event allowed after the awaited one. -/
theorem ball_ends_only_when_requested (st st' : St) (h : step st .resume = some st') :
    ∃ p e, st.pc = some p ∧ tr st' = tr st ++ [e] ∧ follows p e = true ∧ (e = .bwe → st.endEv = true) := by
  obtain ⟨p, e, hs⟩ := resume_spec st st' h
  exact ⟨p, e, hs.pc, hs.tr, hs.follows, hs.bwe⟩

/-- the end-of-ball event is set only by end_ball / end_game / slam tilt, or by balls_in_play going from >0 to 0 -/
theorem end_event_sources (st : St) (v : Int) (h : (setBipTo st v).endEv = true) (h0 : st.endEv = false) :
    st.bip > 0 ∧ (setBipTo st v).bip = 0 := by
  simpa [setBipTo_endEv, h0] using h

/-- After game_ended has completed the game slot is empty and a new game can start (and does start with
game_will_start). -/
theorem ended_clean (st st1 : St) (h : step st .finish = some st1) :
    st.pc = some .ged ∧ st1.pc = none ∧ ∃ st2, step st1 .start = some st2 ∧ tr st2 = tr st1 ++ [.gws] := by
  obtain ⟨hg, h⟩ := of_when h
  cases h
  exact ⟨hg, rfl, start_enabled rfl⟩

/-- Players rotate 1..n: after player_turn_ended, unless the game ends, the next turn belongs to the next player, or
to player 1 after the last one. -/
theorem player_rotates (st st' : St) (hp : st.pc = some .pted) (h : resume st = some st') (hn : st'.pc = some .ptws) :
    st'.cur = (if st.cur < st.players then st.cur + 1 else 1) := by
  obtain ⟨-, p, hp', hr⟩ := resumed_of_resume h
  cases hp.symm.trans hp'
  cases hr with
  | post _ hx _ => exact absurd (Option.some.inj hn) hx.1
  | nextTurn _ _ hc => exact hc
  | lastTurn | cutShort => cases hn

/-- Ball numbers: for balls_per_game ≥ 1, after ANY op sequence no player's ball number exceeds balls_per_game — the value
the template had when this game began (op `config`, only enabled between games: a change of the template during a game has
no effect on it); before the first turn nobody has a ball number; during the turns every player up to the current one
is on the current player's ball and every later player on the ball before it (the round structure: each player gets one
turn per ball number, in order). -/
theorem ball_number_bounded (b m k : Nat) (hb : 1 ≤ b) (ops : List Op) :
    let s := run (start0 b m k) ops
    (∀ p, s.balls p ≤ s.bpg) ∧
    (inTurn s.pc → 1 ≤ s.cur ∧ s.cur ≤ s.players ∧ 1 ≤ s.balls s.cur ∧
      (∀ p, 1 ≤ p → p ≤ s.cur → s.balls p = s.balls s.cur) ∧
      (∀ p, s.cur < p → p ≤ s.players → s.balls p = s.balls s.cur - 1)) := by
  intro s
  have hI := run_inv step_binv ops _ (start0_binv b m k hb)
  exact ⟨hI.bound, hI.turnB⟩

/-- balls_per_game / max_players only change between games: every step of a running game keeps them. -/
theorem config_fixed_during_game (st st' : St) (op : Op) (hp : st.pc.isSome) (h : step st op = some st') (hs : op ≠ .start) :
    st'.bpg = st.bpg ∧ st'.maxPlayers = st.maxPlayers := by
  cases op
  case start => exact absurd rfl hs
  case config b m =>
    have hg := (of_when h).1
    cases hx : st.pc <;> simp [hx] at hg hp
  case resume => exact ⟨(resume_fixed h).1, (resume_fixed h).2.1⟩
  case tilt | slamTilt | tiltWarn | warnReset | tiltClear =>
    have f := tilt_steps_frame st st' _ (by simp) h
    exact ⟨f.bpg, f.maxPlayers⟩
  case addPlayer =>
    rcases of_ite_eq (of_unless h).2 with ⟨_, h⟩ | ⟨_, h⟩ <;> cases h <;> exact ⟨rfl, rfl⟩
  case drain n => cases (of_when h).2; split <;> exact ⟨rfl, rfl⟩
  case startCheck | finish | setKnown => cases (of_when h).2; exact ⟨rfl, rfl⟩
  case endBall | endGame | slam | setBip | extraBall | addAccepted | addRejected | playerAdded | addVetoed | abort =>
    cases (of_unless h).2; exact ⟨rfl, rfl⟩

/-- One ball per turn plus one per extra ball awarded: in every reachable state, for every player, the number of balls
started in this game plus the extra balls still pending equals the number of turns whose first ball started plus the extra
balls awarded — every ball after the first of a turn consumed exactly one awarded extra ball, and nothing else starts a
ball (the counters are ghost fields of the model, updated only where a ball starts / an extra ball is awarded). -/
theorem one_ball_per_turn_plus_extra (b m k : Nat) (ops : List Op) (p : Nat) :
    let s := run (start0 b m k) ops
    s.started p + s.extra p = s.firstBalls p + s.awarded p :=
  run_inv step_acc ops _ (fun _ => rfl) p

/-- ... and a turn does start its first ball: the resumption after player_turn_started emits ball_will_start unless the
end of the game has been requested, and the one after ball_ended starts another ball exactly when an extra ball is
pending (and neither slam tilt nor end of game), consuming it. -/
theorem turn_starts_its_balls (st st' : St) (h : resume st = some st') :
    (st.pc = some .ptsd → (st'.pc = some .bws ↔ st.ending = false)) ∧
    (st.pc = some .bed → (st'.pc = some .bws ↔ (st.extra st.cur > 0 ∧ st.slam = false ∧ st.ending = false)) ∧
      (st'.pc = some .bws → st'.extra st.cur = st.extra st.cur - 1)) := by
  have hq := (resumed_of_resume h).1
  rw [resume, if_neg (by omega)] at h
  constructor <;> intro hp <;> rw [hp] at h <;> cases h
  · cases he : st.ending <;> simp [extraCheck, startBall, he]
  · unfold extraCheck
    split <;> rename_i hx
    · simpa [startBall, emit, setAt, and_assoc] using hx
    · simpa [and_assoc] using hx

/-- Nothing the tilt mode does (tilt, slam tilt, warning, warning reset, tilt clear) touches the lifecycle trace, the awaited
event, balls_in_play, the roster or the ball numbers: it acts on the game only through `tilted`, `slam_tilted` and the
end-of-ball event. -/
theorem tilt_mode_leaves_lifecycle_alone (st st' : St) (op : Op)
    (hop : op = .tilt ∨ op = .slamTilt ∨ op = .tiltWarn ∨ op = .warnReset ∨ op = .tiltClear)
    (h : step st op = some st') :
    tr st' = tr st ∧ st'.pc = st.pc ∧ st'.bip = st.bip ∧ st'.players = st.players ∧ st'.cur = st.cur ∧
      st'.balls = st.balls ∧ st'.ending = st.ending := by
  have f := tilt_steps_frame st st' op hop h
  exact ⟨by simp [tr, f.log], f.pc, f.bip, f.players, f.cur, f.balls, f.ending⟩

/-- A tilt requests the end of the ball exactly when the game is neither tilted already nor ending; otherwise it changes
nothing at all. -/
theorem tilt_requests_ball_end (st st' : St) (h : step st .tilt = some st') :
    (st.tilted = false ∧ st.ending = false → st'.tilted = true ∧ st'.endEv = true) ∧
    (st.tilted = true ∨ st.ending = true → st' = st) := by
  cases (of_unless h).2
  constructor
  · intro ⟨a, b⟩; simp [tiltNow, a, b]
  · intro hx; rcases hx with a | a <;> simp [tiltNow, a]

/-- The warnings_to_tilt-th warning of the player who is up tilts; earlier ones only count; without a player, while ending
or while tilted a warning is ignored. -/
theorem warning_threshold (st st' : St) (h : step st .tiltWarn = some st')
    (hc : st.cur ≠ 0) (he : st.ending = false) (ht : st.tilted = false) :
    st'.warn st.cur = st.warn st.cur + 1 ∧
    (st.warn st.cur + 1 ≥ st.warnTo → st'.tilted = true ∧ st'.endEv = true) ∧
    (st.warn st.cur + 1 < st.warnTo → st'.tilted = false ∧ st'.endEv = st.endEv) := by
  cases (of_unless h).2
  by_cases hw : st.warn st.cur + 1 ≥ st.warnTo
  · simp [MpfVerif.Game.tiltWarn, hc, he, ht, hw, tiltNow]
  · simp [MpfVerif.Game.tiltWarn, hc, he, ht, hw]

/-- A slam tilt is final: the flag survives every step of the game, and the turn that is running is the last one — after
player_turn_ended the game ends instead of rotating (whatever the ball numbers and the number of players). -/
theorem slam_tilt_ends_game (st st' : St) (hs : st.slam = true) :
    (∀ op, op ≠ .start → step st op = some st' → st'.slam = true) ∧
    (st.pc = some .pted → resume st = some st' → st'.pc = some .gwe ∧ st'.ending = true) := by
  refine ⟨fun op hop h => step_slam st st' op hop hs h, fun hp h => ?_⟩
  have hq := (resumed_of_resume h).1
  rw [MpfVerif.Game.resume, if_neg (by omega), hp] at h
  dsimp only at h
  rw [hs, Bool.true_or, if_pos rfl] at h
  cases h
  exact ⟨rfl, rfl⟩

/-- A player-add request that a handler of player_add_request vetoes leaves the roster, the current player and the trace as
they were, and the coroutine can go on (the pending add is gone). -/
theorem vetoed_add_changes_nothing (st s1 s2 : St) (h1 : step st .addAccepted = some s1) (h2 : step s1 .addVetoed = some s2) :
    s2.players = st.players ∧ s2.cur = st.cur ∧ s2.pendAdds = st.pendAdds ∧ tr s2 = tr st ∧ s2.pc = st.pc := by
  cases (of_unless h1).2
  cases (of_unless h2).2
  exact ⟨rfl, rfl, Nat.add_sub_cancel .., rfl, rfl⟩

/-- end_game() while the game waits for its first player (the add request was vetoed): the game ends without having
started, instead of waiting for ever for a player whom request_player_add refuses while ending. -/
theorem end_request_while_waiting_for_first_player (st : St) (hp : st.pc = some .gsg) (hc : st.checked = true)
    (h0 : st.players = 0) (hq : st.pendAdds = 0) (he : st.ending = true) :
    ∃ st', step st .resume = some st' ∧ st'.pc = some .gwe := by
  refine ⟨emit st .gwe, ?_, rfl⟩
  show MpfVerif.Game.resume st = _
  simp [MpfVerif.Game.resume, hp, hc, h0, hq, he]

/-- A game whose mode is stopped from outside leaves the game slot empty and a new game can start at once. -/
theorem aborted_game_restartable (st st1 : St) (h : step st .abort = some st1) :
    st1.pc = none ∧ ∃ st2, step st1 .start = some st2 ∧ tr st2 = tr st1 ++ [.gws] := by
  cases (of_unless h).2
  exact ⟨rfl, start_enabled rfl⟩

/-- A drain that reports at least as many balls as are in play (also MORE: a ball MPF did not count as in play drains
together with the last one) takes balls_in_play to exactly zero, sets the end-of-ball event, and the ball ends. -/
theorem overdrain_ends_ball (st : St) (n : Nat) (hp : st.pc = some .bsd) (hb : st.bip > 0) (hn : n ≥ st.bip)
    (hq : st.pendAdds = 0) :
    ∃ s1 s2, step st (.drain n) = some s1 ∧ s1.bip = 0 ∧ s1.endEv = true ∧
      step s1 .resume = some s2 ∧ s2.pc = some .bwe := by
  have hbip : (setBipTo st ((st.bip : Int) - n)).bip = 0 := by
    simp only [setBipTo]
    split
    · omega
    · split <;> omega
  have hev : (setBipTo st ((st.bip : Int) - n)).endEv = true := by
    rw [setBipTo_endEv, hbip]
    simp [hb]
  have ends : ∀ s : St, s.pendAdds = 0 → s.pc = some .bsd → s.endEv = true →
      step s .resume = some (emit { s with bip := 0 } .bwe) := fun s a b c => by
    show MpfVerif.Game.resume s = _
    simp [MpfVerif.Game.resume, a, b, c]
  exact ⟨_, _, (if_pos hp).trans (congrArg some (if_neg (by omega))), hbip, hev, ends _ hq hp hev, rfl⟩

/-- Observation (not a violation of C06): a tilt that arrives while the ball is already ending sets `tilted`, but its
end-of-ball request is wiped when the next ball starts — the next ball (here player 1's second ball) is in play with the
game still marked tilted and no end requested. -/
theorem tilt_while_ball_ending_carries_over_witness :
    (fun s : St => (s.pc, s.tilted, s.endEv, s.bip, s.balls 1))
      (run (start0 2 4 3) [.start, .resume, .startCheck, .addPlayer, .resume, .resume, .resume, .resume, .resume, .resume,
        .resume, .drain 1, .resume, .resume, .tilt, .resume, .resume, .resume, .resume, .resume, .resume, .resume, .resume,
        .resume, .resume]) = (some .bsd, true, false, 1, 2) := by decide

/-- two warnings of three only count, the third tilts the ball -/
example : (let s := run { start0 1 4 3 with warnTo := 3 } [.start, .resume, .startCheck, .addPlayer, .resume, .resume, .resume, .resume,
      .resume, .resume, .resume, .tiltWarn, .tiltWarn]
    (s.tilted, s.warn 1, s.endEv)) = (false, 2, false) := by decide
example : (let s := run { start0 1 4 3 with warnTo := 3 } [.start, .resume, .startCheck, .addPlayer, .resume, .resume, .resume, .resume,
      .resume, .resume, .resume, .tiltWarn, .tiltWarn, .tiltWarn]
    (s.tilted, s.warn 1, s.endEv)) = (true, 3, true) := by decide

/-- a vetoed first player, then end_game: game_will_start game_starting game_will_end game_ending game_ended -/
example : tr (run (start0 3 4 3) [.start, .resume, .startCheck, .addAccepted, .addVetoed, .endGame, .resume, .resume, .resume]) =
    [.gws, .gsg, .gwe, .geg, .ged] := by decide

/-- restart: the mode is stopped during ball 1, a new game with a different balls_per_game starts -/
example : (let s := run (start0 3 4 3) [.start, .resume, .startCheck, .addPlayer, .resume, .resume, .resume, .resume, .resume, .resume,
      .resume, .abort, .config 1 2, .start, .resume]
    ((tr s).drop 9, s.bpg)) = ([.abt, .gws, .gsg], 1) := by decide

/-- one ball in play, two balls drain at once: the ball ends -/
example : (let s := run (start0 1 4 3) [.start, .resume, .startCheck, .addPlayer, .resume, .resume, .resume, .resume, .resume, .resume,
      .resume, .drain 2, .resume]
    (s.pc, s.bip)) = (some .bwe, 0) := by decide


/-- one player, one ball per game: the whole game, with a drain ending the ball -/
example : (tr (run (start0 1 4 3) [.start, .resume, .startCheck, .addPlayer, .resume, .resume, .resume, .resume, .resume, .resume, .resume,
      .drain 1, .resume, .resume, .resume, .resume, .resume, .resume, .resume, .resume, .resume, .finish])).length = 18 := by
  decide

/-- end_game() requested inside player_turn_starting (D19) and with an extra ball pending (D20): no ball starts -/
example : (let s := run (start0 3 4 3) [.start, .resume, .startCheck, .addPlayer, .resume, .resume, .resume, .extraBall, .endGame, .resume,
      .resume, .resume, .resume, .resume, .resume, .resume]
    (tr s).contains .bws) = false := by decide

/-- end_game() while the game is starting: it ends without game_started and without waiting for a player -/
example : tr (run (start0 3 4 3) [.start, .endGame, .resume, .resume, .resume, .resume]) = [.gws, .gsg, .gwe, .geg, .ged] := by
  decide

/-- two players, the second joining during player 1's ball 1: she has no ball number yet -/
example : (let s := run (start0 1 4 3) [.start, .resume, .startCheck, .addPlayer, .resume, .resume, .addPlayer]
    (s.players, s.cur, s.balls 1, s.balls 2)) = (2, 1, 1, 0) := by decide

end MpfVerif.C06
