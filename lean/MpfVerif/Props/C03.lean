import MpfVerif.Lemmas.Switch
import MpfVerif.Lemmas.SwitchNet
/-!
# C03 — Switch state mirrors the hardware; handlers fire once per real change

Property theorems about `Model/Switch.lean` (the switch controller's state for one switch; switches are independent
in the controller, the driver runs one instance per switch), the model `harness/corr/C03.py` runs against the real
`SwitchController`.  All statements are over every op sequence — raw/logical reports, resyncs, handler registration and
removal, `is_active`-queries, mute/unmute, monitors, time steps and wake-ups (= every timeline, every coincidence between
changes and deadlines) — and over every assignment `P` of behaviours to callbacks (what a callback may do: see the model file).
Callbacks that report a switch change themselves (re-entrant `process_switch`) or act on another switch, and monitors that do
either, are the subject of the second model `Model/SwitchNet.lean` (section "re-entrant dispatch" at the end of this file).
-/
namespace MpfVerif.C03
open MpfVerif.Switch

/-- the logical state of the last report of any kind (raw/logical report, resync, poll) in an op sequence -/
def lastReported (invert : Bool) : List Op → Option Bool
  | [] => none
  | op :: r => (lastReported invert r).orElse (fun _ => reported invert op)

/-- After any op sequence — whatever the callbacks do — the logical state
is the logical value of the last report: the reported value itself for a logical report, the reported value inverted on an
NC switch for a raw report, a resync or a poll (`reported`), or the initial state if nothing was reported; `invert` never
changes; and, polls aside (they overwrite the state silently), if the raw state was the inverse image of the logical one it
still is (`hw = state xor invert`), i.e. `hw_state` is the last raw value. -/
theorem state_is_last_report (P : Prog) (ops : List Op) : ∀ (s : Sw) (r : Sw × List Obs), run P s ops = some r →
    r.1.invert = s.invert ∧ r.1.state = (lastReported s.invert ops).getD s.state ∧
    (NoPoll ops → s.hw = (s.state != s.invert) → r.1.hw = (r.1.state != r.1.invert)) := by
  induction ops with
  | nil => intro s r h; obtain rfl := Option.some.inj h; exact ⟨rfl, rfl, fun _ hh => hh⟩
  | cons op ops ih =>
    intro s r h
    obtain ⟨r1, r2, h1, h2, rfl⟩ := run_cons h
    obtain ⟨a1, a2, a3⟩ := ih r1.1 r2 h2
    obtain ⟨b1, b2, b3⟩ := step_core P s op r1 h1
    refine ⟨a1.trans b1, ?_,
      fun hp hh => a3 (fun o ho => hp o (List.mem_cons_of_mem _ ho)) (b3 (hp op List.mem_cons_self) hh)⟩
    show r2.1.state = _
    rw [a2, b1, b2, lastReported]
    cases lastReported s.invert ops <;> rfl

/-- A report whose logical value equals the current state changes nothing at all (no field of
the controller state), calls no handler and no monitor. -/
theorem duplicate_silent (P : Prog) (s : Sw) (l v : Bool) (h : logicalOf s.invert l v = s.state) :
    step P s (.report l v) = some (s, []) := by
  simp [step, reportL_dup P s _ h]

/-- all untimed registrations for `st`, as calls at instant `t` -/
def untimedCalls (s : Sw) (st : Bool) (t : Nat) : List Obs :=
  ((s.reg st).filter (fun x => x.ms = 0)).map (fun x => Obs.call x.cb st 0 t)

/-- A report that really changes an unmuted switch into state `st` produces `calls ++ monitor`
where `calls` is a sub-sequence of the untimed handlers that were registered for `st` when the change happened — each at
most once, in registration order, at that instant, and nothing else (timed handlers only get a deadline; whatever a callback
registers during the walk is not called in this round) — and it is *exactly* that list, once each, unless a callback that
runs removes a handler of this state (the removed one is then skipped, see `removed_in_callback_never_fires`). -/
theorem untimed_once_per_change (P : Prog) (s : Sw) (l v : Bool) (r : Sw × List Obs)
    (hne : logicalOf s.invert l v ≠ s.state) (hm : s.mutes = []) (h : step P s (.report l v) = some r) :
    ∃ calls, r.2 = calls ++ (if s.mon then [Obs.monitor (logicalOf s.invert l v)] else []) ∧
      List.Sublist calls (untimedCalls s (logicalOf s.invert l v) s.now) ∧
      ((∀ x ∈ s.reg (logicalOf s.invert l v), x.ms = 0 → cancOf (logicalOf s.invert l v) (P x.cb) = []) →
        calls = untimedCalls s (logicalOf s.invert l v) s.now) := by
  obtain rfl := Option.some.inj h
  rw [reportL_walk P hne hm, changed_reg]
  exact ⟨_, rfl, callHandlers_sublist .., callHandlers_obs _ _ _ _ _⟩

/-- A handler that was not registered for the new state when the change happened
is not called in this round, even if a callback of this round registers it (the walk runs over a copy of the list). -/
theorem added_in_walk_not_called_this_round (P : Prog) (s : Sw) (l v : Bool) (r : Sw × List Obs) (cb : Nat)
    (hnew : (⟨cb, 0⟩ : Reg) ∉ s.reg (logicalOf s.invert l v)) (h : step P s (.report l v) = some r) :
    ∀ t, Obs.call cb (logicalOf s.invert l v) 0 t ∉ r.2 := by
  obtain rfl := Option.some.inj h
  intro t ht
  by_cases hne : logicalOf s.invert l v = s.state
  · rw [reportL_dup P s _ hne] at ht; cases ht
  · obtain ⟨calls, e, sub⟩ := reportL_trace P hne
    rw [e] at ht
    rcases List.mem_append.mp ht with d | d
    · obtain ⟨⟨_, _⟩, hx, e⟩ := List.mem_map.mp (sub.subset d)
      obtain ⟨hx, hz⟩ := List.mem_filter.mp hx
      cases e
      cases of_decide_eq_true hz
      exact hnew hx
    · split at d <;> simp at d

/-- A change of a muted switch updates the state (and cancels the pending deadlines) but
calls no handler and schedules none; a monitor is still told, once. -/
theorem muted_change_calls_nothing (P : Prog) (s : Sw) (l v : Bool) (r : Sw × List Obs)
    (hne : logicalOf s.invert l v ≠ s.state) (hm : s.mutes ≠ []) (h : step P s (.report l v) = some r) :
    r.2 = (if s.mon then [Obs.monitor (logicalOf s.invert l v)] else []) ∧ r.1.timed = [] ∧ r.1.wake = none ∧
    r.1.state = logicalOf s.invert l v := by
  obtain rfl := Option.some.inj h
  rw [reportL_muted P hne hm]
  exact ⟨rfl, rfl, rfl, rfl⟩

/-- A monitor hears of every real change exactly once, with the new logical state, after the
handlers — muted or not; (by `duplicate_silent`) never of a duplicate. -/
theorem monitor_once_per_change (P : Prog) (s : Sw) (l v : Bool) (r : Sw × List Obs)
    (hne : logicalOf s.invert l v ≠ s.state) (h : step P s (.report l v) = some r) :
    r.2.filter (fun o => match o with | .monitor _ => true | _ => false)
      = (if s.mon then [Obs.monitor (logicalOf s.invert l v)] else []) := by
  obtain rfl := Option.some.inj h
  obtain ⟨calls, e, sub⟩ := reportL_trace P hne
  have : calls.filter (fun o => match o with | .monitor _ => true | _ => false) = [] :=
    List.filter_eq_nil_iff.mpr (fun o ho => by obtain ⟨y, _, rfl⟩ := List.mem_map.mp (sub.subset ho); simp)
  rw [e, List.filter_append, this]
  split <;> rfl

/-- A resync (hardware snapshot) leaves `hw_state` equal to the hardware and the logical state
its image under NO/NC; if the switch already was in that logical state nothing else changes and nothing is called; otherwise it
is processed exactly like a logical report of the new state (handlers fire for the differences only). -/
theorem resync_mirrors_hardware (P : Prog) (s : Sw) (hw : Bool) (r : Sw × List Obs) (h : step P s (.resync hw) = some r) :
    r.1.hw = hw ∧ r.1.state = (hw != s.invert) ∧
    ((hw != s.invert) = s.state → r = ({ s with hw := hw }, [])) ∧
    step P s (.resync hw) = step P { s with hw := hw } (.report true (hw != s.invert)) := by
  obtain rfl := Option.some.inj h
  refine ⟨?_, (reportL_mirror ..).2.1, reportL_dup P { s with hw := hw } _, rfl⟩
  have f := reportL_frame P { s with hw := hw } (hw != s.invert)
  split at f
  · exact f.hw
  · rw [f.hw]; show ((hw != s.invert) != s.invert) = hw; simp

/-- `verify_switches` / `update_switches_from_hw` while MPF agrees with the hardware changes
nothing and calls nothing — so such polls can be dropped from any timeline (the theorems below exclude polls). -/
theorem poll_in_sync_is_noop (P : Prog) (s : Sw) (hw : Bool) (h : (hw != s.invert) = s.state) :
    step P s (.poll hw) = some (s, []) := by
  simp only [step, h]

/-- A poll that finds the hardware in the other state overwrites `state` silently: no handler
is called, the time of the last change and the pending deadlines stay — a hold-time handler for the *old* state still fires
although the switch is (for MPF) no longer in that state.  (`update_switches_from_hw` is documented to work silently; polls
are therefore excluded from `timed_only_when_held`.) -/
theorem poll_silent_change_witness :
    (run (fun _ => []) {} [.add true 2 7, .report true true, .to 1, .poll false, .to 2, .wake]).map
      (fun r => (r.2, r.1.state)) = some ([.call 7 true 2 2], false) := by decide +kernel

/-- In every state reachable from a fresh switch (whatever the callbacks do), the single
scheduled wake-up is exactly the minimum of the pending deadlines (none iff none is pending) and it is not overdue; hence
every pending deadline `k` satisfies `now ≤ wake ≤ k`: no deadline can be slept through. -/
theorem wake_is_min_deadline (P : Prog) (invert state hw : Bool) (ops : List Op) (r : Sw × List Obs) (hp : NoPoll ops)
    (h : run P { invert := invert, state := state, hw := hw } ops = some r) :
    r.1.wake = minKey r.1.timed ∧
    ∀ kv ∈ r.1.timed, ∃ w, r.1.wake = some w ∧ r.1.now ≤ w ∧ w ≤ kv.1 := by
  have i := run_inv P ops _ r (init_inv invert state hw) hp h
  refine ⟨i.wake_min, ?_⟩
  intro kv hkv
  cases hm : minKey r.1.timed with
  | none => rw [minKey_none.mp hm] at hkv; cases hkv
  | some w =>
    have hw' : r.1.wake = some w := i.wake_min.trans hm
    exact ⟨w, hw', i.wake_ge w hw', (minKey_iff.mp hm).2 kv.1 (List.mem_map.mpr ⟨kv, hkv, rfl⟩)⟩

/-- The "only if" direction, with the exact instant (that a registered hold-time handler of a switch that stays *is* called is
not proved here).  In every reachable
state, every handler call made by a wake-up — including the calls of handlers that a callback of this very wake-up
registered or left in place — is for a handler with hold time `ms ≠ 0` registered for the *current* state, and happens at
exactly `last change + ms`: the switch went into that state `ms` ago and has not changed since. -/
theorem timed_only_when_held (P : Prog) (invert state hw : Bool) (ops : List Op) (s : Sw) (tr : List Obs) (r : Sw × List Obs)
    (hp : NoPoll ops) (h : run P { invert := invert, state := state, hw := hw } ops = some (s, tr))
    (hs : step P s .wake = some r) :
    ∀ o ∈ r.2, ∃ cb st ms t, o = Obs.call cb st ms t ∧
      t = s.now ∧ st = s.state ∧ ms ≠ 0 ∧ ∃ lc, s.lastChange = some lc ∧ t = lc + ms := by
  have i := run_inv P ops _ (s, tr) (init_inv invert state hw) hp h
  obtain ⟨w, hw', hle, rfl⟩ := step_wake hs
  intro o ho
  obtain ⟨e, k, rfl, ⟨lc, d1, d2, d3, d4⟩, hk, (hkn : k ≤ s.now)⟩ :=
    (procKeys_spec P (keys s.timed) (i.toW.setWake none)).calls o ho
  -- `now ≤ w ≤ k ≤ now`
  have hw : w ≤ k := (minKey_iff.mp (i.wake_min.symm.trans hw')).2 k hk
  exact ⟨e.cb, e.st, e.ms, s.now, rfl, rfl, d3, d4, lc, d1,
    d2 ▸ Nat.le_antisymm (Nat.le_trans (i.wake_ge w hw') hw) hkn⟩

/-- After `remove st ms cb` the handler is neither registered nor pending (`Absent`), and along
every continuation in which nobody registers it again (no `add` op, no callback that registers it) it stays absent and is
never called — whatever reports, wake-ups, other registrations and removals, by ops or by callbacks, happen. -/
theorem removed_never_fires (P : Prog) (s : Sw) (st : Bool) (ms cb : Nat) (r0 : Sw × List Obs) (hP : NoAdd P st ms cb)
    (h0 : step P s (.remove st ms cb) = some r0) (ops : List Op) (hops : ∀ op ∈ ops, op ≠ .add st ms cb)
    (r : Sw × List Obs) (h : run P r0.1 ops = some r) :
    Absent r0.1 st ms cb ∧ Absent r.1 st ms cb ∧ ∀ t, Obs.call cb st ms t ∉ r.2 := by
  obtain rfl := Option.some.inj h0
  have a0 := removeH_makes_absent s st ms cb
  exact ⟨a0, run_gone hP ops hops _ [] r (Gone.nil (a := True) (fun _ => a0)) h r.2 (.inl ⟨trivial, rfl⟩)⟩

/-- The removal may happen *inside* a dispatch: if, during one step (the walk of a
change or a wake-up processing its expired buckets), a callback `c` whose actions contain `remove st ms cb` is called, then
handler `(st, ms, cb)` is not called in the rest of that very step — not later in the same walk, not later in the same
deadline bucket, not in a later bucket — and (as in `removed_never_fires`) never afterwards until somebody registers it again. -/
theorem removed_in_callback_never_fires (P : Prog) (s : Sw) (op : Op) (r1 : Sw × List Obs) (st : Bool) (ms cb : Nat)
    (hP : NoAdd P st ms cb) (pre post : List Obs) (c : Nat) (st' : Bool) (ms' t : Nat)
    (h1 : step P s op = some r1) (hsplit : r1.2 = pre ++ Obs.call c st' ms' t :: post) (hrm : Act.remove st ms cb ∈ P c)
    (ops : List Op) (hops : ∀ op ∈ ops, op ≠ .add st ms cb) (r : Sw × List Obs) (h : run P r1.1 ops = some r) :
    (∀ t', Obs.call cb st ms t' ∉ post) ∧ Absent r.1 st ms cb ∧ ∀ t', Obs.call cb st ms t' ∉ r.2 := by
  have hop : op ≠ .add st ms cb := by
    rintro rfl; obtain rfl := Option.some.inj h1; cases pre <;> cases hsplit
  have g := run_gone hP ops hops _ _ r (step_gone hP (Gone.nil (a := False) (s := s) False.elim) hop h1) h
    (post ++ r.2) (.inr ⟨pre, c, st', ms', t, by simp [hsplit], hrm⟩)
  exact ⟨fun t' ht' => g.2 t' (List.mem_append_left _ ht'), g.1, fun t' ht' => g.2 t' (List.mem_append_right _ ht')⟩

/-- Catch-up at the original deadline: a timed handler added while the
switch is already in its state — by an op or by a callback — gets the *original* deadline `last change + ms` if that is
still ahead, and nothing is scheduled for it if that instant has been reached. -/
theorem add_catches_up_only_before_deadline (s : Sw) (st : Bool) (ms cb lc : Nat) (hl : s.lastChange = some lc) :
    (ms ≠ 0 ∧ s.now < lc + ms ∧ st = s.state →
      ∃ kv ∈ (addH s st ms cb).timed, kv.1 = lc + ms ∧ (⟨cb, st, ms⟩ : TEntry) ∈ kv.2) ∧
    (¬ (ms ≠ 0 ∧ s.now < lc + ms ∧ st = s.state) → (addH s st ms cb).timed = s.timed ∧ (addH s st ms cb).wake = s.wake) := by
  simp only [addH, hl]
  split
  · rename_i c; exact ⟨fun _ => pending_insert.mpr (.inl ⟨rfl, rfl⟩), fun n => absurd c n⟩
  · rename_i c; exact ⟨fun y => absurd y c, fun _ => ⟨setReg_timed .., setReg_wake ..⟩⟩

/-! ## the statements are not vacuous (kernel evaluation on concrete timelines) -/

/-- NC switch, raw reports, duplicate, handler added inside the interval (fires at the original deadline), at the
deadline (does not), duplicate registration removed once (neither copy fires) -/
example : (run (fun _ => []) { invert := true, state := false, hw := true }
    [.add true 3 1, .report false false, .to 1, .add true 3 2, .add true 2 3, .add true 2 3, .remove true 2 3,
     .report true true, .to 2, .wake, .to 3, .add true 3 4, .wake, .query true 3, .report false true, .to 9]).map
      (fun r => (r.2, r.1.state, r.1.hw, r.1.wake))
    = some ([.call 1 true 3 3, .call 2 true 3 3, .answer true], false, true, none) := by decide +kernel

/-- time cannot pass the wake-up; a wake-up cannot run early -/
example : run (fun _ => []) {} [.add true 2 0, .report true true, .to 3] = none ∧
    run (fun _ => []) {} [.add true 2 0, .report true true, .to 1, .wake] = none := by decide +kernel

/-- callbacks that mutate the handlers during dispatch: callback 1 removes handler 2 (later in the same walk / the same
bucket) and registers handler 3 -/
def progX : Prog := fun c => if c = 1 then [.remove true 0 2, .remove true 2 2, .add true 0 3, .add true 2 3] else []

/-- untimed walk: 2 is skipped (removed by 1 before its turn), 3 (added by 1) is not called in this round but at the next
change; the timed 3 added in the walk catches up with the deadline of the change -/
example : (run progX {} [.add true 0 1, .add true 0 2, .add true 0 4, .monitor true, .report true true,
      .report true false, .report true true]).map (·.2)
    = some [.call 1 true 0 0, .call 4 true 0 0, .monitor true, .monitor false,
            .call 1 true 0 0, .call 4 true 0 0, .call 3 true 0 0, .monitor true] := by decide +kernel

/-- timed bucket: 1 and 2 share the deadline; 1 runs first and removes 2, which therefore does not fire; the handler 3 that
1 registers with the same hold time does not fire either (its deadline is not ahead any more) -/
example : (run progX {} [.add true 2 1, .add true 2 2, .add true 2 4, .report true true, .to 2, .wake]).map
      (fun r => (r.2, r.1.wake, r.1.timed))
    = some ([.call 1 true 2 2, .call 4 true 2 2], none, []) := by decide +kernel

/-- a callback of an expired bucket registers a handler with a longer hold time: it gets the original deadline and the
wake-up is re-armed for it (one wake-up, at the minimum of what is pending) -/
example : (run (fun c => if c = 1 then [.add true 3 5] else []) {}
      [.add true 1 1, .add true 2 6, .report true true, .to 1, .wake, .to 2, .wake, .to 3, .wake]).map (·.2)
    = some [.call 1 true 1 1, .call 6 true 2 2, .call 5 true 3 3] := by decide +kernel

/-- muted switch: the change is recorded, nothing is called; resync: handlers fire for the difference only -/
example : (run (fun _ => []) {} [.add true 0 1, .mute 4, .report true true, .unmute 4, .resync true, .resync false,
      .add false 0 2, .resync false, .resync true]).map (fun r => (r.2, r.1.state, r.1.hw))
    = some ([.call 1 true 0 0], true, true) := by decide +kernel

/-! ## Switch device events (`Dev` in `Model/Switch.lean`) -/

/-- the posts a history of handler calls should produce when there is no ignore window: one per real change, in order -/
def changesOf : List DOp → List DObs
  | [] => []
  | .change st :: r => .post st :: changesOf r
  | _ :: r => changesOf r

/-- Without an ignore window, along every history the device posts its configured events for the new
state exactly once per real change reported by the controller, in order, and nothing else ever posts (time passing
posts nothing; no window timer exists).  With `untimed_once_per_change`/`duplicate_silent` (the controller calls the
device's handler once per real change and never for a duplicate) this is "events once per real change". -/
theorem events_once (ops : List DOp) : ∀ (d : Dev) (r : Dev × List DObs), d.window = 0 → d.clear = none →
    drun d ops = some r → r.2 = changesOf ops ∧ r.1.window = 0 ∧ r.1.clear = none := by
  induction ops with
  | nil => intro d r hw hc h; obtain rfl := Option.some.inj h; exact ⟨rfl, hw, hc⟩
  | cons op ops ih =>
    intro d r hw hc h
    obtain ⟨r1, r2, h1, h2, rfl⟩ := drun_cons h
    have k : r1.2 = changesOf [op] ∧ r1.1.window = 0 ∧ r1.1.clear = none := by
      cases op with
      | change st =>
        obtain rfl := dstep_change_nowin hw h1
        exact ⟨rfl, hw, hc⟩
      | to t => obtain ⟨-, rfl⟩ := dstep_to h1; exact ⟨rfl, hw, hc⟩
      | pass => obtain ⟨c, hc', -⟩ := dstep_pass h1; exact absurd (hc.symm.trans hc') nofun
    obtain ⟨a, b, c⟩ := ih r1.1 r2 k.2.1 k.2.2 h2
    refine ⟨?_, b, c⟩
    show r1.2 ++ r2.2 = changesOf (op :: ops)
    rw [k.1, a]
    cases op <;> rfl

/-- With an ignore window `w > 0`, in every state reachable from a fresh device:
(a) a change while no window is open posts the new state's events once and opens a window that ends exactly `w` later;
(b) a change while a window is open posts nothing;
(c) the window's end is never slept through, and when `_recycle_passed` runs it is exactly at that instant; it closes the
window and posts the current state's events iff the switch is then in the other state than the one that opened the window
(the catch-up post), nothing otherwise;
(d) hence at most one post per window: while a window is open and its end has not run, nothing at all is posted;
(e) whenever no window is open, the last post is the current state. -/
theorem recycle_window (w : Nat) (st0 : Bool) (ops0 : List DOp) (d : Dev) (tr0 : List DObs) (hw : w ≠ 0)
    (hreach : drun { window := w, state := st0, posted := st0 } ops0 = some (d, tr0)) :
    (d.window = w) ∧
    (∀ st r, d.clear = none → dstep d (.change st) = some r →
        r.2 = [.post st] ∧ r.1.clear = some (d.now + w) ∧ r.1.state = st) ∧
    (∀ st r c, d.clear = some c → dstep d (.change st) = some r → r.2 = [] ∧ r.1.clear = some c ∧ r.1.state = st) ∧
    (∀ r, dstep d .pass = some r → d.clear = some d.now ∧ r.1.clear = none ∧
        r.2 = (if d.state = d.opened then [] else [.post d.state])) ∧
    (∀ c, d.clear = some c → ∀ ops r, (∀ op ∈ ops, op ≠ .pass) → drun d ops = some r → r.2 = [] ∧ r.1.clear = some c) ∧
    (d.clear = none → d.posted = d.state) := by
  have i : DInv w d := drun_inv ops0 _ _ ⟨rfl, by simp, by simp, fun _ => rfl, fun h => absurd h hw⟩ hreach
  have hw' : d.window ≠ 0 := i.win ▸ hw
  refine ⟨i.win, fun st r hc h => ?_, fun st r c hc h => ?_, fun r h => ?_,
    fun c hc ops r hops h => drun_open hw ops hops d r i.win hc h, i.closed_sync⟩
  · obtain rfl := dstep_change_closed hw' hc h
    exact ⟨rfl, i.win ▸ rfl, rfl⟩
  · obtain rfl := dstep_change_open hw' hc h
    exact ⟨rfl, hc, rfl⟩
  · obtain ⟨c, hc, hle, rfl⟩ := dstep_pass h
    cases Nat.le_antisymm hle (i.clear_ge c hc)
    by_cases he : d.state = d.opened
    · rw [if_pos he, if_pos he]; exact ⟨hc, rfl, rfl⟩
    · rw [if_neg he, if_neg he]; exact ⟨hc, rfl, rfl⟩

/-- the window model is exercised: a bounce inside the window is swallowed, the window closes with a catch-up post -/
example : (drun { window := 2, state := false, posted := false }
    [.change true, .to 1, .change false, .to 2, .pass, .change true, .to 3, .change false, .change true, .to 4, .pass]).map (·.2)
    = some [.post true, .post false, .post true] := by decide +kernel

/-! ## Re-entrant dispatch: several switches, handlers and monitors that report changes and touch other switches
(`Model/SwitchNet.lean`; all statements for every amount of fuel, every behaviour `P` of callbacks and monitors) -/

section Reentrant
open MpfVerif.SwitchNet

/-- Along every run of the multi-switch controller — platform reports, registrations,
removals, time steps, wake-ups, and everything the handlers and monitors do from inside the dispatch: reports of the same
switch or of other switches (nested to any depth the fuel allows), registrations and removals on any switch — every switch
that exists stays, and its logical state at the end is the value of the *last* `process_switch` call for it in the trace
(top-level or nested, `NObs.rep`), or its initial state if there was none. -/
theorem reentrant_state_is_last_report (fuel : Nat) (P : NProg) (ops : List NOp) (n : Net) (r : Net × List NObs)
    (h : runN fuel P n ops = some r) (i : Nat) (s : NSw) (hs : n.sws[i]? = some s) :
    ∃ s', r.1.sws[i]? = some s' ∧ s'.state = (lastRep i r.2).getD s.state := by
  have t := track_run fuel P ops n r h i
  simp only [stateOf, hs, Option.map_some] at t
  cases h' : r.1.sws[i]? with
  | none => simp [h'] at t
  | some s' => simp only [h', Option.map_some, Option.some.injEq] at t; exact ⟨s', rfl, t⟩

/-- A report — from the platform or from inside any handler or monitor — whose logical value
is the state the switch is in changes nothing in the whole controller and invokes nothing: the only trace is the report itself. -/
theorem reentrant_duplicate_silent (f : Nat) (P : NProg) (d i : Nat) (l v : Bool) (n : Net) (s : NSw)
    (hd : ¬ n.maxDepth < d) (hs : n.sws[i]? = some s) (hdup : logicalOf s.invert l v = s.state) :
    runAct (f + 1) P d (.report i l v) n = (n, [.rep i s.state]) := by
  simp [runAct, hd, hs, hdup]

/-- While the wake-up of switch `i` walks its expired
deadlines, as soon as a callback has reported a real change of `i` itself (`epoch` moved on — `_cancel_timed_handlers` dropped
the dict the loops were walking), neither loop calls anything more or touches the state: the hold times of the old state are
void, whatever is pending now belongs to the new change. -/
theorem changed_switch_abandons_its_wakeup (f : Nat) (P : NProg) (i k ep : Nat) (n : Net) (s : NSw)
    (hs : n.sws[i]? = some s) (he : s.epoch ≠ ep) :
    (∀ e es, procEntriesN f P i k ep (e :: es) n = (n, [])) ∧ (∀ ks, procKeysN f P i ep (k :: ks) n = (n, [])) := by
  constructor
  · intro e es; simp [procEntriesN, hs, he]
  · intro ks; simp [procKeysN, hs, he]

/-- While `_call_handlers` walks the handlers of a change of switch
`i`, once a callback of that walk has reported the next change of `i` (the switch's change counter is no longer the one of the
change being walked — even if the switch is back in the same state), a hold-time registration met later in the walk is not
armed: the walk goes on as if it were not there.  (Its hold time, if the switch is in that state, was armed by the newer
change's own walk — once.) -/
theorem stale_walk_arms_nothing (f : Nat) (P : NProg) (d i : Nat) (st : Bool) (ep : Nat) (r : NReg) (rest : List NReg) (n : Net)
    (s : NSw) (hs : n.sws[i]? = some s) (hlive : (s.reg st).any (fun x => x.id == r.id) = true) (hms : r.ms ≠ 0)
    (he : s.epoch ≠ ep) :
    walk (f + 1) P d i st ep (r :: rest) n = walk f P d i st ep rest n := by
  simp [walk, hs, hlive, hms, he]

/-- A `wait_for_switch` / `wait_for_any_switch` future is a set of
ordinary handlers (callback id `id`, one per switch of the list, registered for the awaited state and hold time) whose callback
is `_wait_handler`.  Along every run of the controller — whatever else happens, including further matching changes before the
done-callback has removed the handlers — the future is resolved by exactly the *first* call of one of its handlers (with that
switch, at that instant), `set_result` runs exactly once if there is such a call and never otherwise; by the controller
theorems a call happens only for a real change into the awaited state (held for the hold time), never for a duplicate, and
not after the handlers were removed (cancellation, `_future_done`). -/
theorem wait_future_resolves_once_at_first_matching_change (fuel : Nat) (P : NProg) (ops : List NOp) (n : Net)
    (r : Net × List NObs) (_h : runN fuel P n ops = some r) (id : Nat) :
    (futAlong id {} r.2).result = firstCall id r.2 ∧
    (futAlong id {} r.2).sets = (if (firstCall id r.2).isSome then 1 else 0) ∧
    ∀ more, (firstCall id r.2).isSome → futAlong id {} (r.2 ++ more) = futAlong id {} r.2 := by
  have key : futAlong id {} r.2 = _ := futAlong_fresh id r.2 0
  cases hfc : firstCall id r.2 with
  | none => rw [hfc] at key; rw [key]; exact ⟨rfl, rfl, nofun⟩
  | some x =>
    rw [hfc] at key
    refine ⟨key ▸ rfl, key ▸ rfl, fun more _ => ?_⟩
    rw [futAlong_append, key]; exact futAlong_resolved id more _ x rfl

/-- two switches; handler 2 of switch 1 (inactive, hold 3) reports switch 1 active from inside its deadline bucket, which it
shares with handler 1: the change voids the bucket (handler 1 does not fire), nothing is left pending -/
example : (runN 40 (fun c => if c = 2 then [.report 1 true true] else []) { sws := [{}, { state := true, hw := true }] }
    [.act (.add 1 false 3 2), .act (.add 1 false 3 1), .act (.report 1 true false), .to 3, .wake 1]).map
      (fun r => (r.2, (r.1.sws.map (fun s => (s.state, s.timed.length, s.wake)))))
    = some ([.rep 1 false, .call 1 2 false 3 3, .rep 1 true], [(false, 0, none), (true, 0, none)]) := by decide +kernel

/-- an untimed handler leaves the state and comes back within the same instant while the walk is still running: the hold-time
handler behind it fires once, not once per nested walk; a handler of switch 0 reports switch 1 and a monitor hears both -/
example : (runN 60 (fun c => if c = 0 then [.report 0 true false, .report 0 true true] else if c = 5 then [.report 1 false true] else [])
      { sws := [{}, {}], mons := [9] }
    [.act (.add 0 true 0 0), .act (.add 0 true 2 1), .act (.add 0 false 0 5), .act (.report 0 true true), .to 2, .wake 0]).map
      (fun r => (r.2.filter (fun o => match o with | .call _ 1 _ _ _ => true | .mon _ 1 _ => true | _ => false),
                 r.1.sws.map (·.state)))
    = some ([.mon 9 1 true, .call 0 1 true 2 2], [true, true]) := by decide +kernel

/-- a future waiting for switch 0 or 1 to become active (handler id 500 on both): the first matching change resolves it -/
example : (runN 20 (fun _ => []) { sws := [{}, {}] }
    [.act (.add 0 true 0 500), .act (.add 1 true 0 500), .act (.report 1 true false), .to 1, .act (.report 1 true true),
     .act (.report 0 true true)]).map (fun r => futAlong 500 {} r.2)
    = some { result := some (1, 1), sets := 1 } := by decide +kernel

end Reentrant

end MpfVerif.C03
