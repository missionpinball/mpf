import MpfVerif.Lemmas.Show
import MpfVerif.Lemmas.ShowEvents
import MpfVerif.Lemmas.ShowExact
import MpfVerif.Lemmas.ShowKey
import MpfVerif.Lemmas.ShowReplace
import MpfVerif.Lemmas.ShowToken
/-!
# C17 — Shows run on schedule without drift and clean up after themselves

Property theorems only (models: `Model/Show.lean` one running show, `Model/ShowKey.lean` the instances of a show-player key,
`Model/ShowToken.lean` token substitution; helper lemmas: `Lemmas/Show*.lean`).
`run {} ops` is one show after an arbitrary sequence of play / stop / pause / resume / advance / step_back /
speed-update requests and timer callbacks (`fire t`: the loop runs the show's step timer at clock time `t`, which may
be later than the timer's deadline).
-/
namespace MpfVerif.C17
open MpfVerif.Show

/-- No drift: a show played (without `sync_ms`) at `t0` with any `start_step` (1-based, negative = counted from the end,
0 or beyond the end = first step, see `firstIdx`) executes, under *every* sequence of timer callbacks (any number, at any
clock times — late callbacks included, callbacks that are not yet due do nothing), a prefix of the absolute schedule:
the first step with start time `t0`, then cyclically each next step with start time
`t0 + Σ (durations of the steps executed before) * spDen / spNum` — for every loop count (a finite loop count only cuts
the schedule off; a hold step `duration: -1` (0 here) ends it) and whether or not the show is set to manual advance (then
only the first step runs). -/
theorem kth_step_time (durs : List Nat) (num den : Nat) (loops : Option Nat) (start : Int) (manual : Bool) (t0 : Nat)
    (ts : List Nat) (hlen : 0 < durs.length) :
    effs (run {} (.play durs num den loops start true manual 0 t0 :: fires ts)).2 <+:
      sched durs num den (ts.length + 1) (firstIdx start durs.length) t0 :=
  plays_prefix durs num den ts.length _ _ _ (play_plays durs num den loops start manual t0 hlen) _
    (fires_follow_schedule durs num den ts _)

/-- Exact rational arithmetic, any speed: times are numerators over one common denominator (the unit).  When the unit
is fine enough for the speed `num/den` (`Exact`: every `dur * den / num` is an integer — the driver refuses anything
else, so the correspondence never runs the model outside this hypothesis), the `k`-th scheduled step is step
`idxAt k i` and its start time `T` satisfies `T * num = t * num + (Σ_{j<k} dur_j) * den`: *exactly*
`t + (Σ durations) / (num/den)`, the sum taken first and divided once — no per-step rounding, hence no drift, for
speeds like 3, 3/10, 3/2 and step times like 100 ms / 330 ms, over any number of loops. -/
theorem kth_step_time_exact (durs : List Nat) (num den : Nat) (h : Exact durs num den) (k n i t : Nat) (hk : k < n) :
    ∃ T, (sched durs num den n i t)[k]? = some (Obs.eff (idxAt durs.length k i) T) ∧
      T * num = t * num + durSum durs k i * den :=
  sched_kth durs num den h k n i t hk

/-- `sync_ms`: the synchronised start time is a multiple of `sync`, strictly after the play request (never in the
past, never now), at most one period away, and it is the least such multiple. -/
theorem sync_start_is_next_multiple (sync t : Nat) (hs : 0 < sync) :
    sync ∣ syncTime sync t ∧ t < syncTime sync t ∧ syncTime sync t ≤ t + sync ∧
      ∀ m, sync ∣ m → t < m → syncTime sync t ≤ m :=
  ⟨syncTime_dvd sync t, (syncTime_bounds sync t hs).1, (syncTime_bounds sync t hs).2,
    fun m hd hm => syncTime_least sync t m hs hd hm⟩

/-- A show played with `sync_ms` plays nothing before its start timer runs and then follows the absolute schedule
anchored at the *synchronised* time (not at the time the late timer callback happens to run): no drift against the
sync grid, for every sequence of timer callbacks. -/
theorem sync_no_drift (durs : List Nat) (num den : Nat) (loops : Option Nat) (start : Int) (manual : Bool)
    (sync t0 : Nat) (ts : List Nat) (hlen : 0 < durs.length) (hsync : sync ≠ 0) :
    effs (run {} (.play durs num den loops start true manual sync t0 :: fires ts)).2 <+:
      sched durs num den ts.length (firstIdx start durs.length) (syncTime sync t0) := by
  obtain ⟨ho, hs⟩ := play_sync durs num den loops start manual sync t0 hlen hsync
  simp only [run, ho, List.nil_append]
  exact fires_follow_schedule durs num den ts _ _ _ hs

/-- The schedule is the absolute one: the start time of the k-th scheduled step is `t0` plus the sum of the preceding
steps' durations divided by the speed (closed form of `sched`). -/
theorem sched_is_absolute (durs : List Nat) (num den : Nat) : ∀ (k i t : Nat),
    sched durs num den (k + 1) i t =
      Obs.eff i t :: sched durs num den k (nxt durs.length i) (t + durs.getD i 0 * den / num) := by
  intro k i t; rfl

/-- After every request sequence a show has at most one live step timer, and it is the one `stop`/`pause`/`resume`
cancel (a `resume` of a show that is not paused cannot leave a second timer chain behind). -/
theorem single_timer (ops : List Op) :
    (run {} ops).1.timers.length ≤ 1 ∧ ∀ tm ∈ (run {} ops).1.timers, (run {} ops).1.handle = some tm.1 := by
  rcases (run_inv ops {} init_inv).single with h | ⟨id, w, ht, hh⟩
  · rw [h]; simp
  · rw [ht]; simpa using hh

/-- A stopped or completed show produces no further effect, whatever requests and timer callbacks arrive (until it is
played again): it stays stopped, and nothing but the acknowledgement of a `pause` request is emitted — no step, no
clean-up, no played/looped/completed/stopped event. -/
theorem no_effect_after_stop (ops : List Op) : ∀ (s : RS), s.stopped = true → (∀ o ∈ ops, o.isPlay = false) →
    (run s ops).1.stopped = true ∧ ∀ o ∈ (run s ops).2, o = Obs.ev .paused := by
  intro s hs hp
  refine run_induct (I := fun s tr => s.stopped = true ∧ onlyPaused tr) ?_ ops s [] hp ⟨hs, fun _ h => nomatch h⟩
  intro s tr o ho h
  have h1 := step_after_stop s o h.1 ho
  exact ⟨h1.1, fun x hx => (List.mem_append.mp hx).elim (h.2 x) (h1.2 x)⟩

/-- …and a stopped show has no live timer (so nothing can run later either). -/
theorem no_timer_after_stop (ops : List Op) (h : (run {} ops).1.stopped = true) : (run {} ops).1.timers = [] :=
  (run_inv ops {} init_inv).timers_nil h

/-- Clean-up: after every request sequence, whenever the show is stopped (by request, by replacement or by
completing), the context it used in the players has been cleared (`_players` is empty again). -/
theorem context_removed (ops : List Op) (h : (run {} ops).1.stopped = true) : (run {} ops).1.dirty = false :=
  (run_inv ops {} init_inv).clean h

/-- Events once: for every show and every sequence of requests and timer callbacks following its `play`, `played`
is posted at most once — exactly once when the show is played without `sync_ms`; with `sync_ms` exactly when it was
started (`started`: its start timer ran, or a resume/advance/step_back request started it before that; a show that is
stopped before its synchronised start never posts it) —, `stopped` exactly once if the instance ends up stopped (by
request or by completing) and not
at all while it runs, `completed` at most once and only together with `stopped`, and `looped` exactly once per consumed
loop (granted loops = `looped` events + loops left; for an endless show every wrap posts one, see `looped_with_wrap`). -/
theorem events_once (durs : List Nat) (num den : Nat) (loops : Option Nat) (start : Int) (running manual : Bool)
    (sync t : Nat) (rest : List Op) (hp : ∀ o ∈ rest, o.isPlay = false) :
    let r := run {} (.play durs num den loops start running manual sync t :: rest)
    cntE .played r.2 = (if r.1.started then 1 else 0) ∧ (sync = 0 → cntE .played r.2 = 1) ∧
    cntE .stopped r.2 = (if r.1.stopped then 1 else 0) ∧
    cntE .completed r.2 ≤ cntE .stopped r.2 ∧
    (match loops, r.1.loops with
      | some n, some m => cntE .looped r.2 + m = n
      | none, none => True
      | _, _ => False) := by
  simp only [run]
  have h0 := play_ledger durs num den loops start running manual sync t
  have h := run_ledger loops rest _ _ hp h0
  refine ⟨h.played, ?_, h.stopped, h.completed, h.loops⟩
  intro hs
  have h1 : cntE .played (step {} (.play durs num den loops start running manual sync t)).2 = 1 := by
    rw [h0.1, hs, step_play_init]; simp [startPlay]
  have h2 := h.1
  rw [cntE_append, h1] at h2 ⊢
  split at h2 <;> omega

/-- `looped` is posted exactly when a step wraps around: every `_run_next_step` of a running show emits either one step
`eff i t` followed by the request's events and — iff the index wrapped to step 0, consuming one loop — `looped`; or,
with the loop budget exhausted, the stopping sequence. -/
theorem looped_with_wrap (s : RS) (post : List Ev) (pa : Bool) (hs : s.stopped = false) :
    RunRes s post (runNext s post pa) := runNext_out s post pa hs

/-- The stopping step: the one request or timer callback that stops a running show emits, in this order, the clean-up
of its context (if it played anything), `stopped`, and then either nothing (a stop request) or the request's own
acknowledgement (`played` for a show that completes in its very first step) followed by `completed` (the show ran out of
loops) — the order in which `RunningShow` posts them:
`stop()` first, `events_when_completed` last.  Together with `events_once` (exactly one `stopped` in the whole trace)
and `no_effect_after_stop` this fixes the position of every event. -/
theorem stopping_step_order (s : RS) (o : Op) (hp : o.isPlay = false) (hs : s.stopped = false)
    (h : (step s o).1.stopped = true) :
    ∃ pre post, (step s o).2 = pre ++ Obs.ev .stopped :: post ∧ (∀ x ∈ pre, x = Obs.clr) ∧
      (post = [] ∨ ∃ acks, post = acks.map Obs.ev ++ [Obs.ev .completed] ∧ IsAck' acks) :=
  step_stop_shape s o hp hs h

/-- …and nothing but `paused` acknowledgements after `stopped`. -/
theorem nothing_after_stopped (ops : List Op) (s : RS) (hs : s.stopped = true) (hp : ∀ o ∈ ops, o.isPlay = false)
    (e : Ev) (he : e ≠ .paused) : Obs.ev e ∉ (run s ops).2 := by
  intro hmem
  have := (no_effect_after_stop ops s hs hp).2 _ hmem
  simp only [Obs.ev.injEq] at this
  exact he this

/-! ### replacement in sync: several instances under one show-player key (`Model/ShowKey.lean`)

`ShowKey.run {} ops` is a show-player key after an arbitrary sequence of `play` requests (each creates a new instance; one
that is played with `sync_ms` over an instance that still runs holds the *deferred stop* of that instance), requests for
the key (`req`: stop — also the end of the mode that owns the show player —, pause, resume, advance, step_back, speed
update; they reach the newest instance) and timer callbacks of any instance (`fire i t`).  `insts` lists all instances
ever created, newest first. -/

open MpfVerif.ShowKey in
/-- The deferred stop is never lost: after every sequence of plays, requests and timer callbacks, for every instance
`x` ever created under the key — as soon as `x` has started (its sync timer ran, or a resume/advance/step_back request
started it) **or** has been stopped (also: stopped before it ever started, e.g. after a pause cancelled its sync timer)
every instance created before it is stopped: a replaced show never runs on beside / after its replacement. -/
theorem replaced_show_stopped (ops : List KOp) (pre : List Inst) (x : Inst) (rest : List Inst)
    (h : (ShowKey.run {} ops).1.insts = pre ++ x :: rest) (hx : x.rs.started = true ∨ x.rs.stopped = true) :
    ∀ y ∈ rest, y.rs.stopped = true := by
  have hc := run_chain ops {} trivial
  rw [h] at hc
  exact chain_done x rest (chain_suffix pre _ hc) hx

open MpfVerif.ShowKey in
/-- Events once, for every instance of the key: in the projection of the key's trace on the instance with id
`rest.length` (`proj`: what that `RunningShow` itself did and posted), `stopped` occurs exactly once if the instance is
stopped and not at all while it runs — a deferred stop, a replacement at once, a stop request, a completion and any later
request together never post it twice —, `played` exactly once iff the instance has started, `completed` at most once and
only with `stopped`. -/
theorem instance_events_once (ops : List KOp) (pre : List Inst) (x : Inst) (rest : List Inst)
    (h : (ShowKey.run {} ops).1.insts = pre ++ x :: rest) :
    cntE .stopped (proj rest.length (ShowKey.run {} ops).2) = (if x.rs.stopped then 1 else 0) ∧
    cntE .played (proj rest.length (ShowKey.run {} ops).2) = (if x.rs.started then 1 else 0) ∧
    cntE .completed (proj rest.length (ShowKey.run {} ops).2) ≤ cntE .stopped (proj rest.length (ShowKey.run {} ops).2) := by
  have hl := run_ledgers ops
  rw [h] at hl
  obtain ⟨n0, a, b, c, _⟩ := each_at pre hl
  exact ⟨b, a, c⟩

open MpfVerif.ShowKey in
/-- **The replaced show is stopped exactly once.**  Whenever a replacement `x` has started *or* has been stopped
(before or after it started), every instance `y` created before it under the key — the show it replaced, and
transitively what that one had replaced — is stopped (never both running), and `y`'s `stopped` event occurs exactly once
in the whole trace (never stopped twice: not by the deferred stop *and* a later stop request / timer / replacement). -/
theorem replaced_show_stopped_exactly_once (ops : List KOp) (pre : List Inst) (x : Inst) (mid : List Inst) (y : Inst)
    (rest : List Inst) (h : (ShowKey.run {} ops).1.insts = pre ++ x :: (mid ++ y :: rest))
    (hx : x.rs.started = true ∨ x.rs.stopped = true) :
    y.rs.stopped = true ∧ cntE .stopped (proj rest.length (ShowKey.run {} ops).2) = 1 := by
  have hy := replaced_show_stopped ops pre x _ h hx y (by simp)
  have h' : (ShowKey.run {} ops).1.insts = (pre ++ x :: mid) ++ y :: rest := by rw [h]; simp
  have := (instance_events_once ops _ y rest h').1
  rw [hy] at this
  exact ⟨hy, this⟩

open MpfVerif.ShowKey in
/-- …and an instance that still holds a deferred stop has not started and is not stopped (it is a replacement waiting
for its sync point), and what it holds is the stop of the instance created just before it. -/
theorem replaces_previous (ops : List KOp) (pre : List Inst) (x : Inst) (rest : List Inst) (j : Nat)
    (h : (ShowKey.run {} ops).1.insts = pre ++ x :: rest) (hj : x.replaces = some j) :
    x.rs.started = false ∧ x.rs.stopped = false ∧ j + 1 = rest.length := by
  have hc := run_chain ops {} trivial
  rw [h] at hc
  exact (chain_suffix pre _ hc).holds hj

open MpfVerif.ShowKey in
/-- Never both running after the key is stopped: whatever happened before (replacements waiting for their sync point,
paused, advanced, chains of them), after a stop request for the key (or the end of its mode: `clear_context` stops the
instance in the dict) **no** instance ever created under the key runs. -/
theorem key_stopped_nothing_runs (ops : List KOp) (t : Nat) :
    ∀ y ∈ (ShowKey.run {} (ops ++ [.req (.stop t)])).1.insts, y.rs.stopped = true := by
  have hc := run_chain (ops ++ [.req (.stop t)]) {} trivial
  have hk := run_known ops
  rw [run_append] at hc ⊢
  simp only [ShowKey.run, ShowKey.step, reqStep, isReq, if_true] at hc ⊢
  generalize (ShowKey.run {} ops).1 = s1 at hc hk
  cases hl : s1.insts with
  | nil => intro y hy; simp [stepAt] at hy
  | cons x rest =>
    rw [hl] at hc hk
    obtain ⟨y, rest', he, hy⟩ := stepAt_head (.stop t) x rest
    rw [he] at hc ⊢
    have hs : y.rs.stopped = true := by rw [hy]; exact stop_req_stops x.rs t (hk x List.mem_cons_self)
    exact (allStopped_cons _ _).mpr ⟨hs, chain_done y rest' hc (Or.inr hs)⟩

open MpfVerif.ShowKey in
/-- `context_removed` for every instance of the key (the replaced ones included): whenever an instance is stopped — by
request, by replacement at once, by the deferred stop, or by completing — its context is cleared in every player it
used and it has no live timer; and no instance ever has more than one live timer. -/
theorem context_removed_all (ops : List KOp) : ∀ x ∈ (ShowKey.run {} ops).1.insts,
    x.rs.timers.length ≤ 1 ∧ (x.rs.stopped = true → x.rs.dirty = false ∧ x.rs.timers = []) := by
  intro x hx
  have hi := run_invs ops x hx
  exact ⟨hi.length_le, fun hs => ⟨hi.clean hs, hi.timers_nil hs⟩⟩

/-! ### a repeated play: `ShowController.replace_or_advance_show` keeps, advances or replaces (`KOp.playc`)

`playc cid …` is a play whose show-player entry has no `events_when_played` / `events_when_stopped` / `block_queue`: the show
controller compares the new `ShowConfig` with the instance in the dict (`decision`: `keep` = `return old_instance`,
`advance` = `old_instance.advance()`, `replace` = a new `RunningShow`, the old one stopped at once or in sync).  All
theorems above quantify over op sequences that contain such plays. -/

open MpfVerif.ShowKey in
/-- **A show that still waits for its sync point is never started by a repeated play.**  For *every* state of a key
whose newest instance `x` is waiting for its synchronised start (`pending`, not stopped) and for every repeated play
(any config — the identical one included —, any start step, any instant): the decision is `replace`, never `keep` or
`advance`; with `sync_ms` the request emits nothing at all and leaves `x` exactly as it was — same sync timer, same
start time on the sync grid — below a new waiting instance that holds `x`'s deferred stop; without `sync_ms` `x` is
stopped (its clean-up and `stopped` are all it emits).  In no case does `x` play a step or post `played` off the grid. -/
theorem repeated_play_keeps_sync (s : KS) (x : Inst) (rest : List Inst) (h : s.insts = x :: rest)
    (hp : x.rs.pending = true) (hs : x.rs.stopped = false)
    (cid : Nat) (durs : List Nat) (num den : Nat) (loops : Option Nat) (start : Int) (running manual : Bool) (sync t : Nat) :
    decision x cid num den loops manual sync start = .replace ∧
    (sync ≠ 0 → ∃ y, (ShowKey.step s (.playc cid durs num den loops start running manual sync t)).1.insts = y :: x :: rest ∧
        y.replaces = some rest.length ∧ y.rs.started = false ∧ y.rs.stopped = false ∧
        (ShowKey.step s (.playc cid durs num den loops start running manual sync t)).2 = []) ∧
    (∀ o ∈ (ShowKey.step s (.playc cid durs num den loops start running manual sync t)).2, o.1 = rest.length →
        o.2 = Obs.clr ∨ o.2 = Obs.ev .stopped) := by
  have hd : decision x cid num den loops manual sync start = .replace := by rw [decision_eq, if_neg (by simp [hp])]
  have hstep : ShowKey.step s (.playc cid durs num den loops start running manual sync t) =
      playNew (some (cid, loops, sync)) s durs num den loops start running manual sync t := by
    simp only [ShowKey.step, h, hd]
  rw [hstep]
  refine ⟨hd, ?_, ?_⟩
  · intro hsync
    have ff := fresh_sync durs num den loops start running manual sync t hsync
    simp only [playNew, h, hs, hsync, ne_eq, not_false_eq_true, if_true, Bool.false_eq_true, if_false, ff.2.2]
    exact ⟨_, rfl, rfl, ff.1, ff.2.1, rfl⟩
  · intro o ho hk
    by_cases hsync : sync ≠ 0
    · have ff := fresh_sync durs num den loops start running manual sync t hsync
      simp [playNew, h, hs, hsync, ff.2.2, tag] at ho
    · simp only [playNew, h, hs, hsync, Bool.false_eq_true, if_false] at ho
      rcases List.mem_append.mp ho with h1 | h1
      · exact stopFrom_head_obs x rest o h1 hk
      · obtain ⟨b, _, rfl⟩ := List.mem_map.mp h1
        simp at hk

open MpfVerif.ShowKey in
/-- **A kept instance's schedule is unchanged.**  When `replace_or_advance_show` keeps the old instance (it runs the
identical config and is *at* the requested start step) the request emits nothing and changes no instance of the key —
timers, next step time, step index, loops all stay — and therefore every continuation (any requests, timer callbacks,
further plays) produces exactly the trace and the instances it would have produced without the repeated play. -/
theorem kept_instance_unchanged (s : KS) (x : Inst) (rest : List Inst) (h : s.insts = x :: rest)
    (cid : Nat) (durs : List Nat) (num den : Nat) (loops : Option Nat) (start : Int) (running manual : Bool) (sync t : Nat)
    (hd : decision x cid num den loops manual sync start = .keep) (ops : List KOp) :
    (ShowKey.step s (.playc cid durs num den loops start running manual sync t)).1.insts = s.insts ∧
    (ShowKey.step s (.playc cid durs num den loops start running manual sync t)).2 = [] ∧
    (ShowKey.run (ShowKey.step s (.playc cid durs num den loops start running manual sync t)).1 ops).2 = (ShowKey.run s ops).2 ∧
    (ShowKey.run (ShowKey.step s (.playc cid durs num den loops start running manual sync t)).1 ops).1.insts =
      (ShowKey.run s ops).1.insts := by
  have hstep : ShowKey.step s (.playc cid durs num den loops start running manual sync t) = ({ s with now := max s.now t }, []) := by
    simp only [ShowKey.step, h, hd]
  rw [hstep]
  have := run_insts_congr ops { s with now := max s.now t } s rfl
  exact ⟨rfl, rfl, this.2, this.1⟩

open MpfVerif.ShowKey in
/-- The `advance` shortcut is exactly an advance request for the key (so everything proved about requests holds for
it), and it is taken — like `keep` — only for an instance that runs, has already played a step (it is not waiting for its
sync point), runs the identical config (same config id = show, priority, tokens; same loops, sync_ms, and the *current*
speed and manual_advance, which follow update requests) and is exactly one step before the requested start step; a
different speed, different show tokens or any other difference in the config always replaces. -/
theorem advance_is_advance_request (s : KS) (x : Inst) (rest : List Inst) (h : s.insts = x :: rest)
    (cid : Nat) (durs : List Nat) (num den : Nat) (loops : Option Nat) (start : Int) (running manual : Bool) (sync t : Nat) :
    (decision x cid num den loops manual sync start = .advance →
      ShowKey.step s (.playc cid durs num den loops start running manual sync t) = ShowKey.step s (.req (.advance t))) ∧
    (decision x cid num den loops manual sync start ≠ .replace →
      x.rs.stopped = false ∧ x.rs.pending = false ∧ sameCfg x cid num den loops manual sync = true ∧
      ((decision x cid num den loops manual sync start = .keep ∧ x.rs.nextIdx = start) ∨
       (decision x cid num den loops manual sync start = .advance ∧ x.rs.nextIdx + 1 = start))) ∧
    (sameCfg x cid num den loops manual sync = false → decision x cid num den loops manual sync start = .replace) := by
  refine ⟨fun hd => by simp only [ShowKey.step, h, hd], decision_not_replace x cid num den loops manual sync start, ?_⟩
  intro hc
  rw [decision_eq, if_neg (by simp [hc])]

/-! ### show tokens (`Model/ShowToken.lean`: `Show.get_show_steps_with_token`)

A show is the list of its flattened entries (path of dict keys, scalar value), every string a list of segments
(literal text / token `(name)`, produced by the scanner `scan`); `subst toks` is what a play with `show_tokens = toks` runs. -/

open MpfVerif.ShowToken in
/-- Total: when every token of the show is supplied, no token is left anywhere — in no value, in no key, at no depth,
however many tokens a key or value contains. -/
theorem tokens_total (toks : Toks) (sh : List Entry) (h : ∀ n ∈ tokensOf sh, (lookup toks n).isSome = true) :
    tokensOf (subst toks sh) = [] := subst_noTok toks sh h

open MpfVerif.ShowToken in
/-- Capture-free: replacing one token after the other — all tokens through the values, then all tokens through the keys,
as `_replace_token_values` / `_replace_token_keys` do — is the simultaneous substitution: a replacement value is never
looked at again by a later token, and the order of the tokens in `show_tokens` does not matter beyond "first entry of a
name wins". -/
theorem tokens_capture_free (toks : Toks) (sh : List Entry) : substSeq toks sh = subst toks sh := substSeq_eq toks sh

open MpfVerif.ShowToken in
/-- Identity without tokens: a show without tokens is played as it is whatever tokens are supplied, a show played
without tokens is unchanged, and supplied tokens that do not occur in the show change nothing (only the values of the
tokens that occur matter). -/
theorem tokens_identity (toks toks' : Toks) (sh : List Entry) :
    (tokensOf sh = [] → subst toks sh = sh) ∧ subst [] sh = sh ∧
    ((∀ n ∈ tokensOf sh, lookup toks n = lookup toks' n) → subst toks sh = subst toks' sh) := by
  refine ⟨fun h => ?_, subst_nil sh, subst_congr toks toks' sh⟩
  rw [subst_congr toks [] sh (by rw [h]; intro n hn; cases hn), subst_nil]

/-! ### the hypotheses are satisfiable on non-trivial runs (kernel evaluation) -/

example : effs (run {} (.play [8, 16, 8] 2 1 none 2 true false 0 64 :: fires [72, 76, 81, 200, 201])).2 =
    [.eff 1 64, .eff 2 72, .eff 0 76, .eff 1 80, .eff 2 88, .eff 0 92] := by decide +kernel
example : (run {} [.play [8, 8] 1 1 (some 0) 1 true false 0 64, .fire 72, .fire 80, .back 90, .fire 200]).1.stopped = true := by
  decide +kernel
example : (run {} [.play [8, 8] 1 1 none 1 true false 0 64, .resume 66, .stop 70]).1.timers = [] := by decide +kernel
example : (run {} [.play [8, 8] 1 1 (some 1) 1 true false 0 64, .fire 72, .fire 80, .fire 88, .fire 96, .back 99]).2 =
    [.eff 0 64, .ev .played, .eff 1 72, .eff 0 80, .ev .looped, .eff 1 88, .clr, .ev .stopped, .ev .completed] := by decide +kernel
-- speed 3 with step times 100 ms / 330 ms in units of 1/3 ms: 100 and 110 units, exact; the third loop starts at 3 * 210
example : Exact [300, 990] 3 1 := (exactFor_iff _ _ _).mp (by decide)
example : effs (run {} (.play [300, 990] 3 1 none 1 true false 0 1000 :: fires [1100, 1430, 1530, 1860, 1960, 2290])).2 =
    [.eff 0 1000, .eff 1 1100, .eff 0 1430, .eff 1 1530, .eff 0 1860, .eff 1 1960, .eff 0 2290] := by decide +kernel
-- sync 500 at t = 1125: nothing before 1500, then the schedule from 1500 although the start callback is late (1503)
example : (run {} (.play [100, 330] 1 1 none (-1) true false 500 1125 :: fires [1400, 1503, 1830])).2 =
    [.eff 1 1500, .ev .played, .eff 0 1830, .ev .looped] := by decide +kernel
example : syncTime 500 1500 = 2000 := by decide +kernel
-- start_step beyond the end with loops 0: the show completes at once
example : (run {} [.play [8, 8] 1 1 (some 0) 5 true false 0 64]).2 = [.ev .stopped, .ev .played, .ev .completed] := by decide +kernel
-- a synchronised show advanced before its start is started by the request: `played` is posted
example : (run {} [.play [8, 8] 1 1 none 1 true false 32 65, .advance 70, .fire 78, .stop 80]).2 =
    [.eff 0 70, .ev .played, .eff 1 78, .clr, .ev .stopped] := by decide +kernel

-- replacement in sync: A runs (instance 0); B is played with sync 32 over it at 75 and waits; a pause cancels B's sync
-- timer; the stop request then stops A first (the deferred stop), then B: nothing runs any more
open MpfVerif.ShowKey in
example : (ShowKey.run {} [.play [8, 8] 1 1 none 1 true false 0 64, .fire 0 72, .play [4, 4] 1 1 none 1 true false 32 75,
      .fire 0 80, .req (.pause 82), .req (.stop 85)]).2 =
    [(0, .eff 0 64), (0, .ev .played), (0, .eff 1 72), (0, .eff 0 80), (0, .ev .looped), (1, .ev .paused),
     (0, .clr), (0, .ev .stopped), (1, .ev .stopped)] := by decide +kernel
-- ... or B starts at its sync point 96: A is stopped in the same callback, before B's first step
open MpfVerif.ShowKey in
example : (ShowKey.run {} [.play [8, 8] 1 1 none 1 true false 0 64, .play [4, 4] 1 1 none 1 true false 32 75,
      .fire 1 96]).2 =
    [(0, .eff 0 64), (0, .ev .played), (0, .clr), (0, .ev .stopped), (1, .eff 0 96), (1, .ev .played)] := by decide +kernel
-- a chain: three waiting replacements over a running show, released by one stop request (oldest first)
open MpfVerif.ShowKey in
example : ((ShowKey.run {} [.play [8] 1 1 none 1 true false 0 64, .play [8] 1 1 none 1 true false 32 65,
      .play [8] 1 1 none 1 true false 32 66, .play [8] 1 1 none 1 true false 32 67, .req (.stop 70)]).2.map (·.1)) =
    [0, 0, 0, 0, 1, 2, 3] := by decide +kernel

-- a repeated play (`playc`, config id 7) of a show that still waits for its sync point 96 never starts it: each repeat is
-- a new waiting instance holding the deferred stop of the one before; nothing is played before 96, and at 96 the oldest
-- starts on the grid (`played` etc. are the model's start/stop marks: such an entry has no events; the timers of the
-- newer ones, due at the same instant, then replace it in turn)
open MpfVerif.ShowKey in
example : (ShowKey.run {} [.playc 7 [8, 8] 1 1 none 1 true false 32 65, .playc 7 [8, 8] 1 1 none 1 true false 32 70,
      .playc 7 [8, 8] 1 1 none 2 true false 32 71, .fire 0 96]).2 = [(0, .eff 0 96), (0, .ev .played)] := by decide +kernel
-- keep: the same play again right after the start (the show is at step 1 = start_step): nothing happens, the timer at 72
-- runs step 2 on schedule; advance: start_step 3 while at step 2 is an advance request (step 3 now, at 75); a play of the
-- same entry at another step replaces (the old instance is stopped, a new one starts at step 1)
open MpfVerif.ShowKey in
example : (ShowKey.run {} [.playc 7 [8, 8, 8] 1 1 none 1 true false 0 64, .playc 7 [8, 8, 8] 1 1 none 1 true false 0 66,
      .fire 0 72, .playc 7 [8, 8, 8] 1 1 none 3 true false 0 75, .playc 7 [8, 8, 8] 1 1 none 1 true false 0 76]).2 =
    [(0, .eff 0 64), (0, .ev .played), (0, .eff 1 72), (0, .eff 2 75), (0, .ev .advanced), (0, .clr), (0, .ev .stopped),
     (1, .eff 0 76), (1, .ev .played)] := by decide +kernel
-- a different speed (after an update request the *current* speed counts) or another config id replaces
open MpfVerif.ShowKey in
example : ((ShowKey.run {} [.playc 7 [8, 8] 1 1 none 1 true false 0 64, .req (.speed 2 1 65),
      .playc 7 [8, 8] 1 1 none 1 true false 0 66, .playc 7 [8, 8] 1 1 none 1 true false 0 67,
      .playc 7 [8, 8] 2 1 none 1 true false 0 68, .playc 7 [8, 8] 2 1 none 1 true false 0 69,
      .playc 8 [8, 8] 2 1 none 1 true false 0 70]).2.filter (fun o => o.2 == Obs.ev .stopped)).map (·.1) = [0, 1, 2] := by
  decide +kernel

-- tokens: the scanner, a key with two tokens above a token key, a time string, a missing token stays
open MpfVerif.ShowToken in
example : scan "s(e)v_(nm)_0".toList = some [.lit ['s'], .tok ['e'], .lit "v_".toList, .tok "nm".toList, .lit "_0".toList] := by
  decide +kernel
open MpfVerif.ShowToken in
example : (scan "()a)x(".toList).map render = some "()a)x(".toList := by decide +kernel
open MpfVerif.ShowToken in
example : (subst [("a".toList, "1".toList), ("b".toList, "2".toList)]
      [{ path := [[.tok "a".toList, .tok "b".toList], [.tok "b".toList]], val := [.lit ['v'], .tok "a".toList, .tok "c".toList] }]).map
      (fun e => (e.path.map (fun k => String.ofList (render k)), String.ofList (render e.val))) = [(["12", "2"], "v1(c)")] := by decide +kernel

end MpfVerif.C17
