import MpfVerif.Lemmas.Credits
import MpfVerif.Lemmas.CreditsGen
import MpfVerif.Gen.Credits
/-! C20 — credits.  Model: `Model/Credits.lean` (integer credit units; hand-written, tied to
`mpf/modes/credits/code/credits.py` by the correspondence run).  `WF c`: prices and coin values are whole multiples of the
computed credit unit and no unit carries a negative tier bonus. -/
namespace MpfVerif.C20
open MpfVerif.Credits

/-- **bounds**: over every history of requests and clock advances (expirations), from any state within the bounds:
0 ≤ balance, and balance ≤ max_credits · units-per-game whenever a maximum is configured. -/
theorem balance_bounds (c : Cfg) (h : WF c = true) (s : St) (hs : Good c s) (ops : List Op) :
    0 ≤ (run c s ops).units ∧ (maxUnits c ≠ 0 → (run c s ops).units ≤ maxUnits c) :=
  (run_good c h ops s hs).1

theorem balance_bounds_from_boot (c : Cfg) (h : WF c = true) (ops : List Op) :
    0 ≤ (run c (init c) ops).units ∧ (maxUnits c ≠ 0 → (run c (init c) ops).units ≤ maxUnits c) :=
  balance_bounds c h (init c) (init_good c) ops

/-- **ledger** (tier part left to `tier_bonus_is_greedy`): after every history from power-up the balance is  units bought
with accepted coins + tier bonus + units granted by service credits / credit events − units deducted for started players
− units dropped by the cap, an expiration, a reset or a power cycle,  and that last term is never negative. -/
theorem balance_ledger (c : Cfg) (h : WF c = true) (ops : List Op) :
    let s := run c (init c) ops
    s.units = s.inUnits + s.bonus + s.granted - s.deducted - s.lost ∧ 0 ≤ s.lost :=
  (run_good c h ops (init c) (init_good c)).2

theorem players_grow_only_by_start (c : Cfg) (s : St) (op : Op) (hp : players (act c s op) > players s) :
    op = .start :=
  (players_grow hp).start

/-- **start gate**: whenever a request makes the number of players grow while the machine is in credit play, a full
game price was available before it — in every state, reachable or not. -/
theorem start_needs_full_price (c : Cfg) (s : St) (op : Op)
    (hp : players (act c s op) > players s) (hf : s.freePlay = false) : s.units ≥ upg c := by
  simpa [enough, hf] using (players_grow hp).approved

/-- **exact deduction**: a request that makes the number of players grow in credit play adds exactly one player,
takes exactly one game price off the balance and counts one paid game. -/
theorem deduct_exactly_price (c : Cfg) (s : St) (op : Op)
    (hp : players (act c s op) > players s) (hf : s.freePlay = false) :
    players (act c s op) = players s + 1 ∧ (act c s op).units = s.units - upg c ∧
    (act c s op).paid = s.paid + 1 ∧ (act c s op).deducted = s.deducted + upg c := by
  have hu := start_needs_full_price c s op hp hf
  have hd : deductUnits c s.units = s.units - upg c := by unfold deductUnits; split <;> omega
  have j := players_grow hp
  refine ⟨j.one, ?_, ?_, ?_⟩
  · rw [j.units, hf, if_neg Bool.false_ne_true, hd]
  · rw [j.paid, hf, if_neg Bool.false_ne_true]
  · rw [j.deducted, hf, if_neg Bool.false_ne_true, hd, Int.sub_sub_self]

theorem free_play_no_deduction (c : Cfg) (s : St) (op : Op)
    (hp : players (act c s op) > players s) (hf : s.freePlay = true) :
    (act c s op).units = s.units ∧ (act c s op).paid = s.paid := by
  have j := players_grow hp
  exact ⟨by rw [j.units, if_pos hf], by rw [j.paid, if_pos hf]⟩

/-- **audits = coins accepted**: over every history without an earnings reset the coin count and the earnings total grow
by the number and the value of the coins inserted in credit play (also when the cap swallows their credits). -/
theorem audits_equal_coins (c : Cfg) (ops : List Op) (s : St) (h : ∀ op ∈ ops, op ≠ .earnReset) :
    (run c s ops).coinCount = s.coinCount + (coinsIn c s ops).1 ∧
    (run c s ops).earn = s.earn + (coinsIn c s ops).2 := by
  induction ops generalizing s with
  | nil => exact ⟨rfl, rfl⟩
  | cons op rest ih =>
    have h1 := step_audit c s op (h op List.mem_cons_self)
    have h2 := ih (step c s op) fun o ho => h o (List.mem_cons_of_mem _ ho)
    show (run c (step c s op) rest).coinCount = _ ∧ (run c (step c s op) rest).earn = _
    rw [h2.1, h2.2, h1.1, h1.2]
    exact ⟨Nat.add_assoc .., Nat.add_assoc ..⟩

/-- **pricing table = tiers**: the bonus the unit-by-unit loop of `_add_credit_units` grants while the tier counter goes
from `t` to `t + n` without passing the wrap-around is the difference of the cumulative tier bonus (largest tier first). -/
theorem tier_bonus_is_greedy (c : Cfg) (n t : Nat) (b : Int) (h : t + n ≤ wrap c) :
    (tierLoop c n t b).2 = b + cum c (t + n) - cum c t := by
  induction n generalizing t b with
  | zero => exact (Int.add_sub_cancel b _).symm
  | succ n ih =>
    rw [tierLoop]
    cases n with
    | zero => exact (Int.add_sub_assoc ..).symm
    | succ m =>
      -- another unit follows, so the counter has not reached the wrap-around
      rw [Nat.mod_eq_of_lt (by omega), ih (t + 1) _ (by omega), Nat.add_assoc t 1, Nat.add_comm 1]
      show b + (cum c (t + 1) - cum c t) + _ - _ = _
      omega

/-- **tie to the source (1)**: the balance the model stores in `_add_credit_units` is what the cap-and-store code
*as regenerated from credits.py on this run* computes (`Gen/Credits.lean`, everything after the pricing-tier loop), with
`total_credit_units` = balance + added units + tier bonus. -/
theorem gen_add_units (c : Cfg) (s : St) (n : Nat) (t : Bool) :
    (addUnits c s n t).units =
      Gen.Credits.addTail s.units s.units (n + s.units + addBonus c s n t) c.maxCredits (upg c) := by
  rw [addUnits_units]
  unfold newUnits Gen.Credits.addTail maxUnits
  simp only [Int.natCast_mul]

/-- **tie to the source (2)**: `_clear_fractional_credits` as regenerated from credits.py -/
theorem gen_clear_fractional (c : Cfg) (s : St) :
    (clearFrac c s).units = Gen.Credits.clearFractional s.units (upg c) := rfl

/-- **tie to the source (3)**: the credit-play branch of `_player_added` as regenerated from credits.py -/
theorem gen_player_added (c : Cfg) (s : St) :
    (playerAdded c s).units = Gen.Credits.playerAdded s.units (upg c) := by rfl

/-- **tie to the source (4)**: seven handlers of credits.py, *as regenerated from the source on this run*
(`Gen/CreditsOps.lean`, programs for the stateful interpreter `Model/PyStore.lean`): running the generated program on the
object state of `s` and folding everything it did (writes, events, delays, calls of the display / audit / enable methods)
over `s` gives the hand model's next state (ghost ledger aside), nothing it did is without a meaning in the model, and it
returns what the model says.  In credit play where the handler is only registered there; `_clear_fractional_credits` for
a positive number of units per game. -/
theorem handlers_refine_source (c : Cfg) (s : St) :
    (s.freePlay = false →
      genRun c s Gen.CreditsOps.p_request_to_start_game [] =
        (core (if enough c s then s else notEnough s), false, some (.bool (enough c s))) ∧
      genRun c s Gen.CreditsOps.p_player_add_request [] =
        (core (if enough c s then s else notEnough s), false, some (.bool (enough c s))) ∧
      genRun c s Gen.CreditsOps.p_game_started [] = (core (gameStarted s), false, some .none) ∧
      genRun c s Gen.CreditsOps.p_game_ended [] =
        (core { (resetTimeouts c s) with resetThisGame := false }, false, some .none)) ∧
    (0 < upg c → genRun c s Gen.CreditsOps.p_clear_fractional_credits [] = (core (clearFrac c s), false, some .none)) ∧
    genRun c s Gen.CreditsOps.clear_all_credits [] = (core (clearAll s), false, some .none) ∧
    genRun c s Gen.CreditsOps.toggle_credit_play [] = (core (togglePlay c s), false, some .none) :=
  ⟨fun hf => ⟨request_to_start_gen c s hf, player_add_request_gen c s hf, game_started_gen c s hf, game_ended_gen c s⟩,
   clear_fractional_gen c s, clear_all_gen c s, toggle_gen c s⟩

/-- hence, in the source as it is now: the start gate approves a request in credit play only with a full price -/
theorem source_gate_needs_full_price (c : Cfg) (s : St) (hf : s.freePlay = false)
    (h : (genRun c s Gen.CreditsOps.p_request_to_start_game []).2.2 = some (.bool true) ∨
         (genRun c s Gen.CreditsOps.p_player_add_request []).2.2 = some (.bool true)) : s.units ≥ upg c := by
  rw [request_to_start_gen c s hf, player_add_request_gen c s hf] at h
  simp [enough, hf] at h
  exact h

/-- a power cycle never creates credits: the balance after it is the balance before or zero (from any state) -/
theorem reboot_keeps_or_drops (c : Cfg) (s : St) (off : Nat) :
    (act c s (.reboot off)).units = s.units ∨ (act c s (.reboot off)).units = 0 := by
  simp only [act, reboot]
  rw [← boot_frame]
  show (if _ then _ else _) = _ ∨ (if _ then _ else _) = _
  split
  · exact Or.inl rfl
  · exact Or.inr rfl

/-- the hypotheses are satisfiable: the test-suite configuration (quarter and dollar coins, 50 ct per credit,
5 credits for $2, at most 12 credits) is well-formed, two dollars buy 5 credits, and the 12-credit cap holds -/
example :
    let c : Cfg := { maxCredits := 12, coins := [25, 100], tiers := [(50, 1), (200, 5)], events := [1] }
    WF c = true ∧ upg c = 2 ∧ (run c (init c) [.coin 1, .coin 1]).units = 10 ∧
    (run c (init c) [.coin 1, .coin 1, .coin 1, .coin 1, .coin 1, .coin 0, .coin 0, .coin 1]).units = 24 ∧
    (run c (init c) [.coin 1, .start, .start, .start]).units = 0 ∧
    players (run c (init c) [.coin 1, .start, .start, .start]) = 2 := by decide +kernel

/-- power cycles are reachable and both outcomes occur: with `persist_credits_while_off_time: 8s` a dollar's credits
survive 5 s without power and are gone after 9 s; and the generated start gate refuses an empty machine -/
example :
    let c : Cfg := { maxCredits := 12, coins := [25, 100], tiers := [(50, 1)], persist := 8 }
    (run c (init c) [.coin 1, .reboot 5]).units = 4 ∧ (run c (init c) [.coin 1, .reboot 9]).units = 0 ∧
    (init c).freePlay = false ∧ enough c (init c) = false := by decide +kernel

end MpfVerif.C20
