import MpfVerif.Lemmas.Light
import MpfVerif.Lemmas.LightHw
import MpfVerif.Lemmas.BatchLight
import MpfVerif.Lemmas.LightOut
import MpfVerif.Lemmas.LightDev
/-!
# C09 — Light hardware output equals the priority stack's colour

Property theorems only (models: `Model/Light.lean`, `Model/BatchLight.lean`; `crun`, `drun`, `sentTc`, `Quiet`, `Batch.view`,
`Batch.Settled`, `Batch.SeqRev` stand in the `Lemmas/` files).
`run {} ops` is the light after an arbitrary sequence of `color / remove / clear` commands, fade-out delay firings and
clock advances, starting from the empty stack.
-/
namespace MpfVerif.C09
open MpfVerif.Light

/-- After every history the stack is strictly sorted, descending, by (priority, key), and no key occurs twice. -/
theorem stack_sorted_unique_keys (ops : List Op) :
    (run {} ops).stack.Pairwise (fun a b => abv a.prio a.key b.prio b.key ∧ a.key ≠ b.key) :=
  (run_inv ops {} inv_empty).sorted

/-- The logical colour is that of the top entry: after every history the first entry sorts above all others, and if it
is a colour setting (not a fade-out) `get_color()` is its colour — its destination when no fade is running, its start
colour before the fade's start, the interpolation in between — whatever lies below it. -/
theorem logical_is_top (ops : List Op) (e : Entry) (rest : List Entry) (h : (run {} ops).stack = e :: rest) :
    (∀ x ∈ rest, abv e.prio e.key x.prio x.key ∧ x.key ≠ e.key) ∧
    ∀ (now : Nat) (c : RGB), e.destC = some c →
      getColor now (e :: rest) =
        if e.destT = 0 ∨ e.destT ≤ now then c
        else if now ≤ e.startT then e.startC
        else blend e.startC c (now - e.startT) (e.destT - e.startT) := by
  have hs := stack_sorted_unique_keys ops
  rw [h, List.pairwise_cons] at hs
  exact ⟨fun x hx => ⟨(hs.1 x hx).1, (hs.1 x hx).2.symm⟩, fun now c hc => by simp only [getColor, hc]⟩

/-- a transparent (fade-out) entry whose fade is over, and the empty stack: the colour is that of what lies below / off -/
theorem logical_skips_finished_fade_out (now : Nat) (e : Entry) (rest : List Entry) (hc : e.destC = none)
    (ht : e.destT = 0 ∨ e.destT ≤ now) : getColor now (e :: rest) = getColor now rest := by
  simp only [getColor, hc, ht, if_true]

theorem logical_empty_is_off (now : Nat) : getColor now [] = off := rfl

/-- An interpolated component never leaves the interval of its endpoints (for every fraction `k / n ≤ 1`),
starts at the start colour and ends at the destination. -/
theorem blend_within_endpoints (s e : RGB) (k n : Nat) (hk : k ≤ n) :
    (min s.1 e.1 ≤ (blend s e k n).1 ∧ (blend s e k n).1 ≤ max s.1 e.1) ∧
    (min s.2.1 e.2.1 ≤ (blend s e k n).2.1 ∧ (blend s e k n).2.1 ≤ max s.2.1 e.2.1) ∧
    (min s.2.2 e.2.2 ≤ (blend s e k n).2.2 ∧ (blend s e k n).2.2 ≤ max s.2.2 e.2.2) :=
  ⟨blend1_between _ _ _ _ hk, blend1_between _ _ _ _ hk, blend1_between _ _ _ _ hk⟩

theorem blend_endpoints (s e : RGB) (n : Nat) (hn : 0 < n) : blend s e 0 n = s ∧ blend s e n n = e := by
  simp [blend, blend1_zero, blend1_full _ _ _ hn]

/-- the logical colour of a running fade on top of the stack lies between the fade's start colour and its target -/
theorem logical_within_fade (now : Nat) (e : Entry) (rest : List Entry) (c : RGB) (hc : e.destC = some c)
    (h1 : e.startT < now) (h2 : now < e.destT) :
    let v := getColor now (e :: rest)
    (min e.startC.1 c.1 ≤ v.1 ∧ v.1 ≤ max e.startC.1 c.1) ∧
    (min e.startC.2.1 c.2.1 ≤ v.2.1 ∧ v.2.1 ≤ max e.startC.2.1 c.2.1) ∧
    (min e.startC.2.2 c.2.2 ≤ v.2.2 ∧ v.2.2 ≤ max e.startC.2.2 c.2.2) := by
  have h3 : ¬ (e.destT = 0 ∨ e.destT ≤ now) := not_or.mpr ⟨Nat.ne_of_gt (Nat.zero_lt_of_lt h2), Nat.not_le_of_lt h2⟩
  simp only [getColor, hc, h3, Nat.not_le_of_lt h1, if_false]
  exact blend_within_endpoints _ _ _ _ (Nat.sub_le_sub_right (Nat.le_of_lt h2) _)

/-- Removing a key restores exactly what was beneath: a colour command under key `k` (accepted or refused, with or
without fade, at any priority) followed by the removal of `k` leaves the stack that the light had without `k`. -/
theorem remove_restores (s : LSt) (c : RGB) (fade p k st : Nat) :
    (step (step s (.color c fade p k st)).1 (.remove k 0)).1.stack = s.stack.filter (fun e => decide (e.key ≠ k)) := by
  show (stepRemove (stepColor s c fade p k st).1 k 0).1.stack = removeKey k s.stack
  rw [stepRemove_zero_stack, stepColor_stack, addStack_removeKey]

/-- for a key that was not in use the stack, and hence the logical colour at every instant, is exactly as before -/
theorem remove_restores_fresh_key (s : LSt) (c : RGB) (fade p k st : Nat) (hk : ∀ e ∈ s.stack, e.key ≠ k) :
    (step (step s (.color c fade p k st)).1 (.remove k 0)).1.stack = s.stack := by
  rw [remove_restores]
  exact removeKey_absent k _ hk

/-- Removing all keys turns the light off: after removing (without fade-out) every key of a list that covers the keys
in use, the stack is empty and the logical colour is off. -/
theorem remove_all_gives_off (ks : List Nat) : ∀ (s : LSt), (∀ e ∈ s.stack, e.key ∈ ks) →
    (run s (ks.map (fun k => Op.remove k 0))).stack = [] ∧
    ∀ now, getColor now (run s (ks.map (fun k => Op.remove k 0))).stack = off := by
  induction ks with
  | nil =>
    intro s h
    have : s.stack = [] := List.eq_nil_iff_forall_not_mem.mpr (fun e he => by simpa using h e he)
    simp [run, this, getColor]
  | cons k r ih =>
    intro s h
    refine ih (step s (.remove k 0)).1 fun e he => ?_
    obtain ⟨he, hk⟩ := (mem_removeKey ..).mp (stepRemove_zero_stack s k ▸ he)
    exact (List.mem_cons.mp (h e he)).resolve_left hk

theorem clear_gives_off (s : LSt) (now : Nat) : getColor now (step s .clear).1.stack = off := by
  show getColor now (schedule { s with stack := [] }).1.stack = off
  rw [schedule_stack]; rfl

/-- A new fading entry starts from the logical colour of the entries that do not sort above it (lexicographically on
(priority, key); this includes the entry of the same key it replaces): after every history, an accepted
`color(c, fade > 0, priority p, key k)` puts an entry for `k` on the stack whose start colour is the logical colour,
at that instant, of the stack restricted to the entries not above (p, k). -/
theorem fade_start_is_colour_below (ops : List Op) (c : RGB) (fade p k st : Nat) (hf : 0 < fade)
    (hacc : ¬ ((run {} ops).stack ≠ [] ∧ p < prioFromKey k (run {} ops).stack)) :
    ∃ e ∈ (step (run {} ops) (.color c fade p k st)).1.stack,
      e.key = k ∧ e.prio = p ∧ e.destC = some c ∧ e.startT = st ∧ e.destT = st + fade ∧
      e.startC = getColor (run {} ops).now
        ((run {} ops).stack.filter (fun x => !decide (abv x.prio x.key p k))) := by
  have hs : SortedU (run {} ops).stack := stack_sorted_unique_keys ops
  generalize run {} ops = s at *
  show ∃ e ∈ (stepColor s c fade p k st).1.stack, _
  rw [stepColor_stack, addStack, if_neg hacc, if_neg (Nat.ne_of_gt hf)]
  refine ⟨_, (mem_insertE _ _ _).mpr (Or.inl rfl), rfl, rfl, rfl, rfl, rfl, ?_⟩
  show colorBelow s.now p k s.stack = _
  rw [colorBelow, dropWhile_eq_filter_sorted p k _ hs]

/-- Software fade: for every sequence of `set_fade` commands and task resumptions on a channel there is at most one
live stepping task, and it carries the parameters of the latest command. -/
theorem soft_fade_single_task (ops : List COp) :
    (crun {} ops).tasks.length ≤ 1 ∧
    ∀ t ∈ (crun {} ops).tasks, (crun {} ops).cmd = some ⟨t.sb, t.st, t.tb, some t.tt⟩ ∧ (crun {} ops).cur = some t.id := by
  rcases crun_ok ops {} (chanOK_init 0) with ⟨h, _⟩ | ⟨t, ht, hc, hcmd⟩
  · simp [h]
  · simpa [ht] using ⟨hcmd, hc⟩

/-- Software fade at rest: whenever no stepping task is live, the brightness last commanded to the driver is the
target brightness of the latest command (so an earlier fade can never overwrite a later command). -/
theorem soft_quiescent_output (ops : List COp) (m : Cmd) (h : (crun {} ops).tasks = [])
    (hm : (crun {} ops).cmd = some m) : (crun {} ops).lastB = (m.tb, 255) :=
  match crun_ok ops {} (chanOK_init 0) with
  | .inl ⟨_, hq⟩ => hq m hm
  | .inr ⟨t, ht, _⟩ => by simp [h] at ht

/-- The suppression shortcuts never lose an update: after every history the target colour of the last fade sent to
the hardware channels (off before anything was sent) is the target colour of the current stack. -/
theorem hw_target_invariant (ops : List Op) :
    sentTc (run {} ops) = (targetOf (run {} ops).stack).tc :=
  (run_inv ops {} inv_empty).sent

/-- Quiescence: once every fade is over (`destT ≤ now` for all entries) and no fade-out entry is left, the target
colour last sent to the hardware is the logical colour. -/
theorem quiescent_output (ops : List Op) (hq : Quiet (run {} ops).now (run {} ops).stack) :
    sentTc (run {} ops) = getColor (run {} ops).now (run {} ops).stack := by
  rw [hw_target_invariant, target_eq_color_of_quiet _ _ hq]

/-- Several keys may be fading out on one light at the same time: after every history each fade-out entry on the
stack has its *own* pending removal delay, due exactly at the end of its fade (a later removal of another key never
replaces it). -/
theorem fade_out_has_timer (ops : List Op) (e : Entry) (he : e ∈ (run {} ops).stack) (hc : e.destC = none) :
    (e.key, e.destT) ∈ (run {} ops).timers :=
  (run_inv ops {} inv_empty).ghost e he hc

/-- …hence no stale fade-out entry: once every removal delay whose deadline has passed has fired, every fade-out entry
still on the stack is one whose fade is still running. -/
theorem no_stale_fade_out (ops : List Op) (hfired : ∀ t ∈ (run {} ops).timers, (run {} ops).now < t.2)
    (e : Entry) (he : e ∈ (run {} ops).stack) (hc : e.destC = none) : (run {} ops).now < e.destT :=
  hfired _ (fade_out_has_timer ops e he hc)

/-- Batched back end (PlatformBatchLightSystem after the D18 repair): for *every* interleaving of `set_fade` commands
(`mark`), scheduler iterations, sender computations, callback starts (`flush`) and callback completions (`delivered`) —
commands may arrive at any point, also while a callback is awaited — no dirty light is lost: every light that ever got a
command is still dirty, or taken by the sender, or re-scheduled (its fade is running), or the brightness recorded for
it is the target of its *latest* fade; and the recorded brightness is exactly what the platform has or will have once the
queued lists are delivered. -/
theorem batch_no_lost_dirty (ops : List Batch.Op) (l : Nat) :
    let s := Batch.run {} ops
    (s.ver l = 0 ∨ l ∈ s.dirty ∨ l ∈ s.pending ∨ l ∈ s.sched.map (·.2) ∨ Batch.Settled s l) ∧
    Batch.view s l = (s.last l).map (·.1) :=
  ⟨(Batch.run_inv ops {} Batch.inv_empty).lost l, (Batch.run_inv ops {} Batch.inv_empty).view l⟩

/-- …hence at rest (nothing dirty, taken, scheduled, queued or in flight) the platform has received, for every light
that ever got a command, the target brightness of its latest `set_fade` — transmitted after that `set_fade`, whatever
happened in between. -/
theorem batch_quiescent_output (ops : List Batch.Op) (l : Nat)
    (hrest : (Batch.run {} ops).dirty = [] ∧ (Batch.run {} ops).pending = [] ∧ (Batch.run {} ops).sched = [] ∧
      (Batch.run {} ops).acc = [] ∧ (Batch.run {} ops).inflight = none)
    (hv : (Batch.run {} ops).ver l ≠ 0) :
    ∃ b, (Batch.run {} ops).hw l = some b ∧ Batch.eqB b (((Batch.run {} ops).fade l).tb, 255) := by
  obtain ⟨h1, h2⟩ := batch_no_lost_dirty ops l
  obtain ⟨hd, hp, hs, ha, hi⟩ := hrest
  obtain ⟨b, t, hl, he⟩ : Batch.Settled (Batch.run {} ops) l := by simpa [hd, hp, hs, hv] using h1
  refine ⟨b, ?_, he⟩
  simpa [Batch.view_eq, ha, hi, hl, Batch.lastIn] using h2

/-- The stepping task of `LightPlatformDirectFade._fade` with `max_fade_ms = M` (software fade: `M = 0`; hardware that
fades by itself: `M > 0`), for every sequence of `set_fade` commands and task resumptions: whatever a resumption hands
to the hardware belongs to the channel's *latest* command `m` (never to a replaced fade), asks for at most the hardware's
maximum fade, and lies on the logical fade: an intermediate step tells the hardware to reach, `M` from now, the brightness
the line `(m.st, m.sb) — (T, m.tb)` has at that instant; the final step carries the target brightness and exactly the
remaining time, and leaves no task behind.  (Fade durations in units of 1/8000 ms: one tick = 1000000.)  With `M > 0` the
code as it is starts this task only for absurdly long fades (see `hw_fade_set_direct`); the theorem is about the function
for all inputs. -/
theorem hw_fade_step_on_latest_line (M : Nat) (ops : List COp) (now iv : Nat) (r : Chan × Nat × Nat × Bool)
    (hr : (crun { maxFade := M } ops).stepTask now iv = some r) :
    ∃ m T, (crun { maxFade := M } ops).cmd = some m ∧ m.tt = some T ∧ r.1.lastF ≤ 1000000 * M ∧
      r.1.lastB = (r.2.1, r.2.2.1) ∧
      (r.2.2.2 = false → now + M < T ∧ r.1.lastF = 1000000 * M ∧ r.2.2.1 = 255 * (T - m.st) ∧
        r.2.1 = lineNum m.sb m.st m.tb T (now + M) ∧ r.2.1 ≤ r.2.2.1) ∧
      (r.2.2.2 = true → T ≤ now + M ∧ r.1.lastF = 1000000 * (T - now) ∧ (r.2.1, r.2.2.1) = (m.tb, 255) ∧
        r.1.tasks = []) := by
  have hM : (crun { maxFade := M } ops).maxFade = M := crun_maxFade ops _
  obtain ⟨t, hcmd, _, hcase⟩ := stepTask_some (crun_ok ops _ (chanOK_init M)) hr
  rw [hM] at hcase
  refine ⟨_, t.tt, hcmd, rfl, ?_⟩
  rcases hcase with ⟨hlt, rfl⟩ | ⟨hge, rfl⟩ <;> dsimp only
  · exact ⟨Nat.le_refl _, rfl, fun _ => ⟨hlt, rfl, rfl, rfl, clampI_le _ _⟩, nofun⟩
  · exact ⟨Nat.mul_le_mul_left _ (by omega), rfl, nofun, fun _ => ⟨hge, rfl, rfl, rfl⟩⟩

/-- `LightPlatformDirectFade.set_fade` as the code is: the stepping task is started exactly when
`(target_time - now) / 1000.0` (seconds / 1000) exceeds `max_fade_ms`, i.e. when `T - now > 1000000 * maxFade` ticks — for
a software fade whenever the fade has time left, for a hardware-fading light practically never; in every other case the
target brightness is handed over at once (so at rest the last commanded brightness is the target — the clause of C09),
with the fade duration the code computes, `T - now` units of 1/8000 ms instead of `1000000 * (T - now)`: the hardware is
told to jump (D30, observed; outside the property). -/
theorem hw_fade_set_direct (c : Chan) (now : Nat) (m : Cmd) :
    ((c.setFade now m).2 = false →
      (c.setFade now m).1.lastB = (m.tb, 255) ∧
      (∀ T, m.tt = some T → T ≤ now + 1000000 * c.maxFade ∧ (c.setFade now m).1.lastF = T - now) ∧
      (m.tt = none → (c.setFade now m).1.lastF = 0)) ∧
    ((c.setFade now m).2 = true → ∃ T, m.tt = some T ∧ now + 1000000 * c.maxFade < T) := by
  unfold Chan.setFade
  cases hm : m.tt with
  | none => exact ⟨fun _ => ⟨rfl, nofun, fun _ => rfl⟩, nofun⟩
  | some T =>
    simp only
    split
    next h => exact ⟨nofun, fun _ => ⟨T, rfl, h⟩⟩
    next h => exact ⟨fun _ => ⟨rfl, fun T' hT => by cases hT; exact ⟨Nat.le_of_not_lt h, rfl⟩, nofun⟩, nofun⟩

/-- RGBW channel mapping (`rgbw_white_behavior`): for every colour with components `≤ 255` all four channels stay within
`0..255`; with `duck_rgb` the common part moves to the white channel — white plus each colour channel reproduces the
colour, white is the minimum and one colour channel is 0; with `white_only` likewise white plus channel reproduces the
colour (a pure grey is white only, anything else uses no white); with `min_rgb` the colour channels are the colour itself
and white duplicates the minimum. -/
theorem rgbw_sum_preserved (style : Nat) (c : RGB) (h : c.1 ≤ 255 ∧ c.2.1 ≤ 255 ∧ c.2.2 ≤ 255) :
    ((rgbw style c).1 ≤ 255 ∧ (rgbw style c).2.1 ≤ 255 ∧ (rgbw style c).2.2.1 ≤ 255 ∧ (rgbw style c).2.2.2 ≤ 255) ∧
    (style = 1 → (rgbw style c).1 + (rgbw style c).2.2.2 = c.1 ∧ (rgbw style c).2.1 + (rgbw style c).2.2.2 = c.2.1 ∧
      (rgbw style c).2.2.1 + (rgbw style c).2.2.2 = c.2.2 ∧ (rgbw style c).2.2.2 = minC c ∧
      min (rgbw style c).1 (min (rgbw style c).2.1 (rgbw style c).2.2.1) = 0) ∧
    (style = 2 → (rgbw style c).1 + (rgbw style c).2.2.2 = c.1 ∧ (rgbw style c).2.1 + (rgbw style c).2.2.2 = c.2.1 ∧
      (rgbw style c).2.2.1 + (rgbw style c).2.2.2 = c.2.2) ∧
    (style ≠ 1 → style ≠ 2 → ((rgbw style c).1, (rgbw style c).2.1, (rgbw style c).2.2.1) = c ∧
      (rgbw style c).2.2.2 = minC c) := by
  obtain ⟨hr, hg, hb, hm⟩ := minC_spec c
  refine ⟨?_, fun hs => ?_, fun hs => ?_, fun h1 h2 => ?_⟩
  · by_cases h1 : style = 1
    · rw [h1, rgbw_duck]
      exact ⟨Nat.le_trans (Nat.sub_le ..) h.1, Nat.le_trans (Nat.sub_le ..) h.2.1, Nat.le_trans (Nat.sub_le ..) h.2.2,
        Nat.le_trans hr h.1⟩
    · by_cases h2 : style = 2
      · rw [h2, rgbw_white_only]
        split
        · exact ⟨Nat.zero_le _, Nat.zero_le _, Nat.zero_le _, h.1⟩
        · exact ⟨h.1, h.2.1, h.2.2, Nat.zero_le _⟩
      · rw [rgbw_min style c h1 h2]
        exact ⟨h.1, h.2.1, h.2.2, Nat.le_trans hr h.1⟩
  · rw [hs, rgbw_duck]
    refine ⟨Nat.sub_add_cancel hr, Nat.sub_add_cancel hg, Nat.sub_add_cancel hb, rfl, ?_⟩
    -- the minimum is one of the components
    simp only [Nat.min_eq_zero_iff, Nat.sub_eq_zero_iff_le]
    omega
  · rw [hs, rgbw_white_only]
    split
    next hgrey => exact ⟨Nat.zero_add _, (Nat.zero_add _).trans hgrey.1, (Nat.zero_add _).trans (hgrey.1.trans hgrey.2)⟩
    · exact ⟨rfl, rfl, rfl⟩
  · rw [rgbw_min style c h1 h2]
    exact ⟨rfl, rfl⟩

/-- Brightness factor and colour correction as applied before the channel split: the brightness factor (`q/4 ≤ 1`) is
monotone in every component, never brightens, and maps black to black; hence for a light without correction profile the
hardware target of black is black and a brighter logical component never gives a darker hardware component.  For a
profile table the same holds exactly when the table is monotone and maps 0 to 0 — which is checked on the configured
table by the harness (it is *not* true of every table `generate_from_parameters` produces: see the report). -/
theorem brightness_monotone_black (q : Nat) (hq : q ≤ 4) (x y : RGB) :
    outC [] q off = off ∧
    (x.1 ≤ y.1 → (outC [] q x).1 ≤ (outC [] q y).1) ∧ (x.2.1 ≤ y.2.1 → (outC [] q x).2.1 ≤ (outC [] q y).2.1) ∧
    (x.2.2 ≤ y.2.2 → (outC [] q x).2.2 ≤ (outC [] q y).2.2) ∧
    ((outC [] q x).1 ≤ x.1 ∧ (outC [] q x).2.1 ≤ x.2.1 ∧ (outC [] q x).2.2 ≤ x.2.2) := by
  have hid : ∀ c : RGB, outC [] q c = gammaC q c := fun _ => rfl
  rw [hid, hid, hid]
  refine ⟨?_, (gammaC_mono q x y).1, (gammaC_mono q x y).2.1, (gammaC_mono q x y).2.2, gammaC_le q hq x⟩
  unfold gammaC off
  split <;> simp

/-- `Light.on(brightness)` never exceeds the configured `default_on_color`, full brightness gives exactly that colour and
brightness 0 gives black. -/
theorem on_color_within_default (c : RGB) (b : Nat) (hb : b ≤ 255) (hc : c.1 ≤ 255 ∧ c.2.1 ≤ 255 ∧ c.2.2 ≤ 255) :
    ((mulC c b).1 ≤ c.1 ∧ (mulC c b).2.1 ≤ c.2.1 ∧ (mulC c b).2.2 ≤ c.2.2) ∧ mulC c 255 = c ∧ mulC c 0 = off := by
  obtain ⟨r, g, bl⟩ := c
  simp only at hc
  have key (x : Nat) : min (x * b / 255) 255 ≤ x := Nat.le_trans (Nat.min_le_left _ _) (mul_div_le x hb)
  refine ⟨⟨key r, key g, key bl⟩, ?_, ?_⟩
  · simp only [mulC, Nat.mul_div_cancel _ (by decide : 0 < 255)]
    simp [Nat.min_eq_left hc.1, Nat.min_eq_left hc.2.1, Nat.min_eq_left hc.2.2]
  · simp [mulC, off]

/-- Batched back end with hardware fades — the computation of `get_fade_and_brightness` with `max_fade_ms = m` (the path
taken whenever the light's target is not cached; the cache, which answers a repeated call with fade 0 — D31, observed,
outside the property — is `Batch.fdOf` and does not change the brightness): for
every fade, instant and hardware maximum the (brightness, fade) pair never asks for more than the maximum;
when the fade ends within the maximum it is the target brightness with exactly the remaining time (and the light is done);
otherwise it is the maximum fade together with the brightness the logical fade has at `now + m`, and the light is
re-scheduled. -/
theorem batch_hw_pair_on_line (f : Batch.Fade) (now m : Nat) :
    Batch.fadeAt f now m ≤ m ∧
    (∀ tt, f.tt = some tt → now + m < tt →
      Batch.brightnessAt f now m =
        (((((f.sb : Int) * ((tt : Int) - f.st) + ((f.tb : Int) - f.sb) * ((now : Int) + m - f.st))).toNat, 255 * (tt - f.st)), false) ∧
      Batch.fadeAt f now m = m) ∧
    (∀ tt, f.tt = some tt → tt ≤ now + m → Batch.brightnessAt f now m = ((f.tb, 255), true) ∧ Batch.fadeAt f now m = tt - now) ∧
    (f.tt = none → Batch.brightnessAt f now m = ((f.tb, 255), true) ∧ Batch.fadeAt f now m = 0) := by
  refine ⟨Batch.fadeAt_le f now m, ?_, ?_, ?_⟩
  · intro tt h1 h2; simp [Batch.brightnessAt, Batch.fadeAt, h1, h2]
  · intro tt h1 h2
    have : ¬ now + m < tt := by omega
    simp [Batch.brightnessAt, Batch.fadeAt, h1, this]
  · intro h1; simp [Batch.brightnessAt, Batch.fadeAt, h1]

/-- Grouping of one round into callback lists (`_send_updates` / `_send_update_batch`): whatever the batch size, the
fade tolerance and the fades, concatenating the lists gives back exactly the queued lights in order — every one once,
none dropped, none duplicated, each with its own entry — and every list is non-empty, no longer than the batch size and
made of successive channel numbers. -/
theorem batch_grouping_exact (mb tol : Nat) (xs : List (Nat × Nat)) :
    (Batch.group mb tol xs [] 0).flatten = xs ∧
    ∀ g ∈ Batch.group mb tol xs [] 0, g ≠ [] ∧ g.length ≤ max mb 1 ∧ Batch.SeqRev g.reverse := by
  refine ⟨by simpa using Batch.group_flatten mb tol xs [] 0, ?_⟩
  exact Batch.group_bounds mb tol xs [] 0 trivial (by simp)

/-- Every dirty channel is sent exactly once per round, whatever the grouping: for *every* interleaving of commands,
scheduler iterations, computations, callback starts (at any point: `flush`, `flushKeep`) and completions, the lights
handed to the callback in the current round plus the open list are, in order, exactly the lights of the taken dirty set
that have been processed and not skipped as already transmitted; processed and still pending lights together are the
taken set, which has no duplicates.  So when the round is over (`pending = []`, `acc = []`) the callbacks of the round
have carried every non-skipped dirty light exactly once. -/
theorem batch_round_exactly_once (ops : List Batch.Op) :
    let s := Batch.run {} ops
    ((s.roundSent.flatten ++ s.acc).map (·.1) = (s.roundDone.filter (fun x => !x.2)).map (·.1)) ∧
    s.roundDone.map (·.1) ++ s.pending = s.taken ∧ s.taken.Pairwise (· < ·) ∧
    (s.pending = [] → s.acc = [] →
      (s.roundSent.flatten.map (·.1)).Pairwise (· < ·) ∧
      ∀ l, l ∈ s.roundSent.flatten.map (·.1) ↔ (l, false) ∈ s.roundDone) := by
  obtain ⟨_, _, h1, h2, _, h5⟩ := Batch.run_inv ops {} Batch.inv_empty
  refine ⟨h1, h2, h5, fun hp ha => ?_⟩
  rw [ha, List.append_nil] at h1
  rw [hp, List.append_nil] at h2
  rw [h1]
  constructor
  · -- the sent lights are a sublist of the processed ones, which are the taken set
    exact (h2 ▸ h5).sublist (List.filter_sublist.map _)
  · intro l
    simp

/-- The dedupe shortcuts of `_schedule_update` compare *uncorrected* stack colours with the remembered last target, while
the channels receive colours after brightness factor, correction profile and channel mapping.  For every device
configuration (1/3/4 channels, any RGBW style, brightness factor, correction table — including tables under which one
colour is the corrected image of another — hardware maximum fade) and every history of colour/on/off/remove/clear commands,
fade-out delay firings, clock advances and fade-task resumptions: each hardware channel either has never been commanded
(nothing was ever sent) or its *latest* `set_fade` command targets exactly the channel value of the **corrected** target
colour of the current stack.  So no coincidence between a new colour and the corrected (or uncorrected) value of an
earlier one can make the shortcuts drop an update the hardware needs. -/
theorem channel_target_is_corrected_stack_target (n iv mf style q : Nat) (onC : RGB) (tab : List Nat) (ops : List DOp)
    (i : Nat) (c : Chan) (hc : (drun (dinit n iv mf style q onC tab) ops).chans[i]? = some c) :
    ((drun (dinit n iv mf style q onC tab) ops).l.last = none ∧ c.cmd = none) ∨
    ∃ m, c.cmd = some m ∧
      m.tb = chanVal n i style (outC tab q (targetOf (drun (dinit n iv mf style q onC tab) ops).l.stack).tc) := by
  obtain ⟨hinv, hch⟩ := drun_inv ops _ (dinit_inv n iv mf style q onC tab)
  obtain ⟨l, cs, e, _⟩ := drun_frame ops (dinit n iv mf style q onC tab)
  rw [e] at hinv hch hc ⊢
  have hcmd : c.cmd = l.last.map (cmdOf tab q n i style) := (hch i c hc).2
  have hsent : sentTc l = (targetOf l.stack).tc := hinv.sent
  cases hl : l.last with
  | none => exact Or.inl ⟨rfl, by rw [hcmd, hl]; rfl⟩
  | some t =>
    refine Or.inr ⟨_, by rw [hcmd, hl]; rfl, ?_⟩
    rw [cmdOf_tb, ← hsent, sentTc, hl]

/-- The at-rest clause of C09 on the direct, software-faded and hardware-fading back ends, *with* brightness and colour
correction: after every history, once all fades and fade-outs are over, something was sent at all, and a channel has no
live stepping task, the brightness last commanded to that channel is the channel value of the corrected logical
colour. -/
theorem corrected_output_at_rest (n iv mf style q : Nat) (onC : RGB) (tab : List Nat) (ops : List DOp)
    (i : Nat) (c : Chan) (hc : (drun (dinit n iv mf style q onC tab) ops).chans[i]? = some c)
    (hsent : (drun (dinit n iv mf style q onC tab) ops).l.last ≠ none)
    (hq : Quiet (drun (dinit n iv mf style q onC tab) ops).l.now (drun (dinit n iv mf style q onC tab) ops).l.stack)
    (ht : c.tasks = []) :
    c.lastB = (chanVal n i style (outC tab q
      (getColor (drun (dinit n iv mf style q onC tab) ops).l.now (drun (dinit n iv mf style q onC tab) ops).l.stack)), 255) := by
  obtain ⟨_, hch⟩ := drun_inv ops _ (dinit_inv n iv mf style q onC tab)
  rcases channel_target_is_corrected_stack_target n iv mf style q onC tab ops i c hc with ⟨h, _⟩ | ⟨m, hm, hb⟩
  · exact absurd h hsent
  · rcases (hch i c hc).1 with ⟨_, hQ⟩ | ⟨t, ht', _⟩
    · rw [hQ m hm, hb, target_eq_color_of_quiet _ _ hq]
    · simp [ht] at ht'

/-- every channel of the device exists throughout: the latest-command statement above speaks about all `n` channels -/
theorem device_keeps_its_channels (n iv mf style q : Nat) (onC : RGB) (tab : List Nat) (ops : List DOp) :
    (drun (dinit n iv mf style q onC tab) ops).chans.length = n := by
  obtain ⟨l, cs, e, hlen⟩ := drun_frame ops (dinit n iv mf style q onC tab)
  rw [e]
  simpa [dinit] using hlen

/-! ### the hypotheses are satisfiable on non-trivial states (kernel evaluation) -/

def exOps : List Op :=
  [.adv 8, .color (255, 0, 0) 0 1 4 8, .color (0, 0, 255) 8 3 1 8, .adv 10, .remove 4 4, .adv 11,
   .color (9, 9, 9) 0 0 2 11]

example : (run {} exOps).stack.length = 3 := by decide +kernel
example : getColor 10 (run {} exOps).stack = (192, 0, 63) := by decide +kernel
example : sentTc (run {} exOps) = (0, 0, 255) := by decide +kernel
example : Quiet 20 (run {} (exOps ++ [.adv 14, .fire 4, .adv 20])).stack := by decide +kernel
example : (crun {} [.set 8 ⟨0, 8, 255, some 24⟩, .tick 8 1, .tick 9 1, .set 12 ⟨0, 0, 0, none⟩, .tick 13 1]).tasks = [] := by
  decide +kernel
example : (crun {} [.set 8 ⟨0, 8, 255, some 24⟩, .tick 8 1, .tick 9 1]).tasks.length = 1 := by decide +kernel

/-- a command arriving while a callback is awaited (the D18 situation) is transmitted in the next round -/
example : (Batch.run {} [.adv 16, .mark 0 ⟨0, 0, 255, none⟩, .compute 0, .flush, .mark 1 ⟨0, 0, 128, none⟩, .delivered,
    .compute 1, .flush, .delivered]).hw 1 = some (128, 255) := by decide +kernel

/-- three keys fading out at once, removed within each other's windows; every delay fires; the stack is empty again -/
def exOps3 : List Op :=
  [.adv 8, .color (255, 0, 0) 0 1 1 8, .color (0, 255, 0) 0 1 2 8, .color (0, 0, 255) 0 2 3 8, .remove 3 8, .adv 9,
   .remove 1 8, .remove 2 4]

example : ((run {} exOps3).stack.filter (fun e => e.destC.isNone)).length = 3 ∧ (run {} exOps3).timers.length = 3 := by decide +kernel
example : (run {} (exOps3 ++ [.adv 13, .fire 2, .adv 16, .fire 3, .adv 17, .fire 1])).stack = [] := by decide +kernel

/-- the code as it is: a 2 s fade on hardware that fades at most 0.5 s on its own is handed over at once as the target (D30) -/
example : (crun { maxFade := 4 } [.set 8 ⟨0, 8, 255, some 24⟩]).lastB = (255, 255) ∧
    (crun { maxFade := 4 } [.set 8 ⟨0, 8, 255, some 24⟩]).lastF = 16 ∧
    (crun { maxFade := 4 } [.set 8 ⟨0, 8, 255, some 24⟩]).tasks = [] := by decide +kernel
/-- the stepping task with a hardware maximum (reached only by a fade longer than 1000000 ticks per tick of maximum) -/
example : (crun { maxFade := 1 } [.set 0 ⟨0, 0, 255, some 4000000⟩, .tick 0 1]).lastF = 1000000 ∧
    (crun { maxFade := 1 } [.set 0 ⟨0, 0, 255, some 4000000⟩, .tick 0 1]).lastB = (255, 255 * 4000000) ∧
    (crun { maxFade := 1 } [.set 0 ⟨0, 0, 255, some 4000000⟩, .tick 0 1]).tasks.length = 1 := by decide +kernel
/-- the batch cache as it is (D31): a light computed twice without a new command answers fade 0 the second time -/
example : Batch.fdOf (Batch.run { maxFade := 200 } [.adv 16, .mark 0 ⟨0, 16, 255, some 48⟩, .compute 0, .flush, .delivered]) 0 = 0 ∧
    Batch.fdOf (Batch.run { maxFade := 200 } [.adv 16, .mark 0 ⟨0, 16, 255, some 48⟩]) 0 = 32 := by decide +kernel
example : rgbw 1 (200, 120, 50) = (150, 70, 0, 50) ∧ rgbw 2 (77, 77, 77) = (0, 0, 0, 77) ∧ rgbw 0 (200, 120, 50) = (200, 120, 50, 50) := by
  decide +kernel
/-- channels 10-13, 15 and 20-21 dirty, batch size 3, equal fades: lists [10,11,12] [13] [15] [20,21] -/
example : (Batch.group 3 2 [(10, 0), (11, 0), (12, 0), (13, 0), (15, 0), (20, 0), (21, 0)] [] 0).map (fun g => g.map (·.1)) =
    [[10, 11, 12], [13], [15], [20, 21]] := by decide +kernel
/-- a round with a skipped light and a list that overflowed: both lights computed and not skipped were sent once -/
example : ((Batch.run { maxBatch := 1 } [.adv 16, .mark 0 ⟨0, 0, 255, none⟩, .mark 1 ⟨0, 0, 128, none⟩, .compute 0, .compute 1,
    .flushKeep, .delivered, .flush, .delivered]).roundSent.flatten.map (·.1)) = [0, 1] := by decide +kernel

/-- the coincidence of the seeded change: brightness 0.5, white, then (127,127,127) = corrected(white) under the same key:
the second command is NOT suppressed, the channels end at corrected(127,127,127) = 63 -/
def exDev : List DOp :=
  [.light (.adv 8), .light (.color (255, 255, 255) 0 1 1 8), .light (.adv 9), .light (.color (127, 127, 127) 0 1 1 9)]

example : ((drun (dinit 3 1 0 0 2 (255, 255, 255) []) exDev).chans.map (·.lastB)) = [(63, 255), (63, 255), (63, 255)] := by
  decide +kernel
example : (drun (dinit 3 1 0 0 2 (255, 255, 255) []) exDev).l.last ≠ none ∧
    Quiet (drun (dinit 3 1 0 0 2 (255, 255, 255) []) exDev).l.now (drun (dinit 3 1 0 0 2 (255, 255, 255) []) exDev).l.stack ∧
    ((drun (dinit 3 1 0 0 2 (255, 255, 255) []) exDev).chans.all (fun c => c.tasks.isEmpty)) = true := by decide +kernel
/-- a software fade to a colour, the same colour re-issued above it with a fade (target = start), the task steps, the upper
key removed (colour beneath equals the removed one): one live task at most, and at rest the corrected colour -/
example : ((drun (dinit 1 1 0 0 3 (255, 255, 255) []) [.light (.adv 8), .light (.color (100, 100, 100) 2 1 1 8), .task 0,
    .light (.adv 9), .task 0, .light (.color (100, 100, 100) 4 2 2 9), .light (.adv 10), .task 0, .light (.adv 14),
    .task 0, .light (.remove 2 0)]).chans.map (fun c => (c.lastB, c.tasks.length))) = [((75, 255), 0)] := by decide +kernel

end MpfVerif.C09
