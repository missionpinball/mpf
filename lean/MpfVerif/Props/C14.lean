import MpfVerif.Lemmas.Framing2
import MpfVerif.Lemmas.Framing3
/-!
# C14 — Serial links: framing, integrity and command flow control

Where the full property fails of the code, `name_witness` is the counterexample to it and `name_partial` the part that
holds; `D7`, `D22` are rows of the findings table in DESIGN.md section 5.  Several theorems only restate a general lemma
of `Lemmas/Framing*.lean` under the property's name.
-/
namespace MpfVerif.C14
open MpfVerif.Framing

/-- `feed (a ++ b) = feed (feed a) b` on state and outputs, for every byte-at-a-time decoder (FAST, PKONE, OPP automaton). -/
theorem feed_append {σ α : Type} (step : σ → Nat → σ × List α) (s : σ) (a b : Bytes) :
    feed step s (a ++ b)
      = ((feed step (feed step s a).1 b).1, (feed step s a).2 ++ (feed step (feed step s a).1 b).2) :=
  Framing.feed_append step s a b

/-- FAST (`\r`-delimited): frames **and** carried buffer depend only on the bytes, not on how they were split into reads. -/
theorem fast_chunking_irrelevant (buf : Bytes) (c1 c2 : List Bytes) (h : c1.flatten = c2.flatten) :
    feedChunks (delimStep CR) buf c1 = feedChunks (delimStep CR) buf c2 :=
  feedChunks_flatten _ _ c1 c2 h

/-- PKONE (`E`-delimited): same statement. -/
theorem pkone_chunking_irrelevant (buf : Bytes) (c1 c2 : List Bytes) (h : c1.flatten = c2.flatten) :
    feedChunks (delimStep PKE) buf c1 = feedChunks (delimStep PKE) buf c2 :=
  feedChunks_flatten _ _ c1 c2 h

/-- Delimiter decoders resynchronise at the next delimiter: whatever was carried and whatever noise `g` arrived, after
one delimiter every following frame (not containing the delimiter) is delivered exactly, in order, nothing is carried. -/
theorem delim_resync_then_delivered (d : Nat) (buf g : Bytes) (fs : List Bytes) (h : ∀ f ∈ fs, d ∉ f) :
    (feed (delimStep d) (feed (delimStep d) buf (g ++ [d])).1 (fs.flatMap (· ++ [d]))) = ([], fs) := by
  rw [Framing2.delimStep_eq, Framing2.dStep_delim, Framing2.dStep_frames d _ fs h]
  simp

/-- OPP: the transcription of `_parse_msg` (buffer, `_lost_synch`, `while strlen > 2`, 7/11-byte frames), run on any
chunking from the initial state, emits exactly the frames of the byte-at-a-time automaton on the concatenated bytes,
and its carried `(part_msg, _lost_synch)` normalises (`absSt`) to the automaton's state.  The carried pair itself *does*
depend on the chunking; its normal form does not. -/
theorem opp_parse_refines_automaton (chunks : List Bytes) :
    feed aStep .idle chunks.flatten = (absSt (parseChunks {} chunks).1, (parseChunks {} chunks).2) :=
  (parseChunks_sim chunks {} rfl).1

/-- OPP `chunking_irrelevant`, from any quiet carried state (the invariant `_parse_msg` re-establishes on every return):
two ways of splitting the same byte stream give the same frames and bisimilar (equal after normalisation) carried states. -/
theorem opp_chunking_irrelevant_from (s : PSt) (hq : Quiet s) (c1 c2 : List Bytes) (h : c1.flatten = c2.flatten) :
    (parseChunks s c1).2 = (parseChunks s c2).2 ∧ absSt (parseChunks s c1).1 = absSt (parseChunks s c2).1 := by
  have a := (parseChunks_sim c1 s hq).1
  have b := (parseChunks_sim c2 s hq).1
  rw [h] at a
  rw [a] at b
  exact ⟨(Prod.mk.inj b).2, (Prod.mk.inj b).1⟩

/-- in particular from the initial state -/
theorem opp_chunking_irrelevant (c1 c2 : List Bytes) (h : c1.flatten = c2.flatten) :
    (parseChunks {} c1).2 = (parseChunks {} c2).2 ∧ absSt (parseChunks {} c1).1 = absSt (parseChunks {} c2).1 :=
  opp_chunking_irrelevant_from {} rfl c1 c2 h

/-- non-vacuity + the chunking dependence of the raw carried state: noise `41 ff ff ff ff` in one read leaves nothing carried,
split 4+1 it leaves `ff`; both normalise to the same automaton state. -/
example : (parseChunks {} [[0x41, 0xff, 0xff, 0xff, 0xff]]).1 = { buf := [], lost := true } ∧
    (parseChunks {} [[0x41, 0xff, 0xff, 0xff], [0xff]]).1 = { buf := [0xff], lost := true } := by decide
example : (parseChunks {} [[0x20, 8, 1, 2], [3, 4, 0x55, 0xff]]).2 = [[0x20, 8, 1, 2, 3, 4, 0x55]] := by decide

/-- `_parse_msg` never runs out of loop iterations: on return the loop condition is false or it hit `break`. -/
theorem opp_parse_terminates (s : PSt) (c : Bytes) : iter (parseChunk s c).1 = none :=
  (parseLoop_spec _ _ (parseChunk_fuel s c)).2

/-- The generated table is a permutation of 0..255 (it is `x ↦ x·X⁸` modulo the generator). -/
theorem crc8_table_is_permutation (i j : Nat) (hi : i < 256) (hj : j < 256)
    (h : Gen.crc8Table.getD i 0 = Gen.crc8Table.getD j 0) : i = j := by
  rw [tbl_eq i hi, tbl_eq j hj] at h
  exact rep_inj 8 i j hi hj h

/-- CRC-8 detects every single-byte error: a frame `data ++ [crc]` that passes the check fails it after any change of
exactly one byte — in the data or in the CRC byte itself. -/
theorem crc8_detects_single_byte (p s : Bytes) (b b' k : Nat) (hp : ∀ x ∈ p, x < 256) (hs : ∀ x ∈ s, x < 256)
    (hb : b < 256) (hb' : b' < 256) (hne : b ≠ b') (hok : crcOk (p ++ b :: s ++ [k]) = true) :
    crcOk (p ++ b' :: s ++ [k]) = false ∧ ∀ k', k' ≠ k → crcOk (p ++ b :: s ++ [k']) = false := by
  simp only [crcOk_concat, beq_iff_eq, beq_eq_false_iff_ne] at hok ⊢
  exact ⟨fun h => crc8_single_byte p s b b' hp hs hb hb' hne (hok.trans h.symm),
    fun k' hk' h => hk' (hok.symm.trans h).symm⟩

/-- CRC-8 detects every burst error of at most 8 bits: if a frame passes the check and an error pattern confined to 8
consecutive bits — the low `j` bits of one byte (`e1`) and the high `8-j` bits of the next (`h * 2^j`), anywhere in the
frame including the CRC byte, not all zero — is xor-ed onto it, the result fails the check.  (The regenerated table is
kernel-checked to be the bit-serial CRC-8 of X⁸+X²+X+1; the rest is the usual residue argument.) -/
theorem crc8_detects_burst (f : Bytes) (i k j h e1 : Nat) (hf : ∀ b ∈ f, b < 256) (hlen : f.length = i + 2 + k)
    (hj : j ≤ 8) (h1 : e1 < 2 ^ j) (h2 : h < 2 ^ (8 - j)) (hnz : e1 ≠ 0 ∨ h ≠ 0) (hok : crcOk f = true) :
    crcOk (xorL f (List.replicate i 0 ++ [e1, h * 2 ^ j] ++ List.replicate k 0)) = false := by
  obtain ⟨b1, b2⟩ := burst_bounds j h e1 hj h1 h2
  have hel : f.length = (List.replicate i 0 ++ [e1, h * 2 ^ j] ++ List.replicate k 0).length := by simp; omega
  have he : ∀ b ∈ List.replicate i 0 ++ [e1, h * 2 ^ j] ++ List.replicate k 0, b < 256 := by
    intro b hb
    simp only [List.append_assoc, List.mem_append, List.mem_replicate, List.mem_cons, List.not_mem_nil, or_false] at hb
    rcases hb with ⟨_, rfl⟩ | (rfl | rfl) | ⟨_, rfl⟩ <;> omega
  exact Bool.eq_false_iff.mpr fun hc =>
    burst_residue_ne_zero i k j h e1 hj h1 h2 hnz ((crcOk_xorL f _ hel hf he hok).mp hc)

/-- non-vacuity: a burst across the boundary of the last data byte and the CRC byte of a real input frame -/
example : crcOk (xorL [0x20, 8, 0xff, 0xff, 0xff, 0xfe, crc8 [0x20, 8, 0xff, 0xff, 0xff, 0xfe]]
    (List.replicate 5 0 ++ [0x07, 0x15 * 2 ^ 3] ++ List.replicate 0 0)) = false := by decide +kernel

/-- non-vacuity: a real 7-byte input frame passes, its single-byte corruptions fail -/
example : crcOk [0x20, 8, 0xff, 0xff, 0xff, 0xfe, crc8 [0x20, 8, 0xff, 0xff, 0xff, 0xfe]] = true := by decide +kernel
example : crcOk [0x20, 8, 0xff, 0xfd, 0xff, 0xfe, crc8 [0x20, 8, 0xff, 0xff, 0xff, 0xfe]] = false := by decide +kernel

/-- A frame with a wrong checksum never changes a switch state: cards (old_state and reported switch states) are
untouched and no switch event is produced; only the bad-CRC counter moves. -/
theorem bad_crc_no_change (p : Plat) (f : Bytes) (h : crcOk f = false) :
    (processFrame p f).1.inp = p.inp ∧ (processFrame p f).1.mtx = p.mtx ∧ (processFrame p f).2 = [] := by
  unfold processFrame
  split
  · split
    · simp [h]
    · simp
  · split
    · simp [h]
    · simp
  · simp

/-- Switch states equal the last report (OPP): `updCards` is what a frame with a correct CRC does to the card table.
If every card's reported switch states mirror its `old_state` (established by the initial read), they still do
afterwards, and if the addressed card exists it now has `old_state` = the frame's payload bits and reported switch
states = their complement (inputs are active low).  Frames with a wrong CRC change nothing (`bad_crc_no_change`),
frames for an unknown card leave every card as it was (second conjunct's hypothesis fails, first conjunct holds). -/
theorem opp_states_equal_last_report (base a n : Nat) (new : List Bool) (cs : List Card) (hn : new.length = n)
    (hinv : ∀ c ∈ cs, c.sw = c.old.map (!·) ∧ c.old.length = n) :
    (∀ c ∈ (updCards base a new cs).1, c.sw = c.old.map (!·) ∧ c.old.length = n) ∧
    ((∃ c ∈ cs, c.addr = a) → ∃ c ∈ (updCards base a new cs).1, c.addr = a ∧ c.old = new ∧ c.sw = new.map (!·)) := by
  induction cs with
  | nil => simp [updCards]
  | cons c r ih =>
    obtain ⟨hc, hr⟩ := List.forall_mem_cons.mp hinv
    obtain ⟨ih1, ih2⟩ := ih hr
    unfold updCards
    by_cases ha : c.addr = a
    · have hsw := updSw_follows c.old new c.sw (by omega) hc.1
      simp only [ha, if_true]
      exact ⟨List.forall_mem_cons.mpr ⟨⟨hsw, hn⟩, hr⟩, fun _ => ⟨_, List.mem_cons_self, rfl, rfl, hsw⟩⟩
    · simp only [ha, if_false]
      refine ⟨List.forall_mem_cons.mpr ⟨hc, ih1⟩, fun ⟨x, hx, hxa⟩ => ?_⟩
      rcases List.mem_cons.mp hx with rfl | hx
      · exact absurd hxa ha
      · obtain ⟨y, hy, h3⟩ := ih2 ⟨x, hx, hxa⟩
        exact ⟨y, List.mem_cons_of_mem _ hy, h3⟩

/-- FAST: after a `-L:`/`/L:` report for a configured switch its state is the reported one, all others are unchanged;
frames that are skipped, ignored or unknown change nothing. -/
theorem fast_event_sets_one_switch (s : FSw) (n : Nat) (h : n < s.table.length) :
    (fastApply s (.closed n)).table[n]? = some true ∧ (fastApply s (.opened n)).table[n]? = some false ∧
    (∀ m, m ≠ n → (fastApply s (.closed n)).table[m]? = s.table[m]? ∧ (fastApply s (.opened n)).table[m]? = s.table[m]?) ∧
    fastApply s .skipped = s ∧ fastApply s .undecodable = s ∧ fastApply s .ignored = s ∧ fastApply s .noproc = s := by
  refine ⟨setAt_get _ _ _ h, setAt_get _ _ _ h, fun m hm => ⟨setAt_other _ _ _ _ hm, setAt_other _ _ _ _ hm⟩,
    rfl, rfl, rfl, rfl⟩

/-- FAST, snapshots and events together: after *any* list of reports — `SA:` snapshots and `-L:`/`/L:` events in any
order, including repeated identical snapshots and snapshots contradicting earlier events — the state of a configured
switch `n` is what the LAST report that mentions it said: an event for `n` gives the reported logical state, a snapshot
listing `n` gives `invert xor bit`; reports after it that are silent about `n` (events for other switches, snapshots too
short to list `n`) do not matter, and neither does anything before it. -/
theorem fast_state_is_last_report (s : PSw) (pre post : List SOp) (n : Nat) (cur : Bool)
    (hn : s.logical[n]? = some cur) (hc : s.cfg[n]? = some true) (hpost : ∀ x ∈ post, Silent s n x) :
    (∀ a, (swRun s (pre ++ .ev n a :: post)).logical[n]? = some a) ∧
    (∀ bits i b, s.inv[n]? = some i → bits[n]? = some b →
        (swRun s (pre ++ .snap bits :: post)).logical[n]? = some (i != b)) := by
  have last : ∀ o, (swRun s (pre ++ o :: post)).logical[n]? = some (sayAt s n (pre.foldl (sayAt s n) cur) o) := by
    intro o
    rw [swRun_get, hn, Option.map_some, List.foldl_append, List.foldl_cons, foldl_silent s n post hpost]
  constructor
  · intro a
    rw [last]; simp [sayAt, hc]
  · intro bits i b hi hb
    rw [last]; simp [sayAt, snapAt, hc, hi, hb]

/-- which reports are silent about switch `n`: an event for another switch, a snapshot that does not list `n`, and every
report when `n` is not a configured switch; a switch nobody mentions keeps its state. -/
theorem fast_silent_reports (s : PSw) (n : Nat) :
    (∀ m a, m ≠ n → Silent s n (.ev m a)) ∧ (∀ bits, bits[n]? = none → Silent s n (.snap bits)) ∧
    (s.cfg[n]? ≠ some true → ∀ o, Silent s n o) ∧
    (∀ ops, (∀ o ∈ ops, Silent s n o) → (swRun s ops).logical[n]? = s.logical[n]?) := by
  refine ⟨?_, ?_, ?_, ?_⟩
  · intro m a hm cur; simp [sayAt, hm]
  · intro bits hb cur; simp only [sayAt, snapAt, hb]; split
    · rename_i h; cases h
    · rfl
  · intro hc o cur
    cases o with
    | snap bits =>
      simp only [sayAt, snapAt]
      split
      · rename_i h1 _ _; exact absurd h1 hc
      · rfl
    | ev m a => simp [sayAt, hc]
  · intro ops h
    rw [swRun_get]
    cases hl : s.logical[n]? with
    | none => rfl
    | some cur => simp [foldl_silent s n ops h]

/-- `hw_switch_data` is the last snapshot, whatever events came before or after it. -/
theorem fast_hw_is_last_snapshot (s : PSw) (pre post : List SOp) (bits : List Bool)
    (h : ∀ o ∈ post, ∀ b, o ≠ .snap b) : (swRun s (pre ++ .snap bits :: post)).hw = bits := by
  rw [swRun_append]
  exact swRun_hw_events post _ h

/-- non-vacuity: NO switch 1 and NC switch 2; an event, a contradicting snapshot, the same snapshot again, an event -/
example : (swRun { cfg := [false, true, true], inv := [false, false, true], logical := [false, false, false] }
    [.ev 1 true, .snap [true, false, false], .snap [true, false, false], .ev 2 false, .ev 0 true]).logical
    = [false, false, false] ∧
    (swRun { cfg := [false, true, true], inv := [false, false, true], logical := [false, false, false] }
    [.ev 1 true, .snap [true, false, false]]).logical = [false, false, true] := by decide

/-- A well-framed but malformed FAST frame (`-L:G1`) is skipped; the frames around it are decoded (D22). -/
example : (fastFrames { table := List.replicate 16 false } (feed (delimStep CR) []
    [45, 76, 58, 48, 65, 13, 45, 76, 58, 71, 49, 13, 45, 76, 58, 48, 66, 13]).2).2
    = [.closed 10, .skipped, .closed 11] := by decide

/-- Queued commands keep their order: at every point of every run, what has been written followed by what is still
queued is exactly the sequence of commands handed to the communicator. -/
theorem writer_fifo (ops : List WOp) :
    (wRun {} ops).log ++ (wRun {} ops).queue.map (·.id) = enqueued ops := by
  have := wRun_fifo ops {}
  simpa using this

/-- Flow control, the part that holds (known finding D7): the writer itself never waits, so "nothing is written while a
confirmation is outstanding" holds only for senders that hand over a command when nothing is queued and nothing is
outstanding (the discipline of `send_and_wait_for_response_processed` used by one task at a time). -/
theorem writer_silent_until_confirmed_partial (ops : List WOp) (h : disciplined {} ops = true) :
    countViol {} ops = 0 :=
  countViol_disciplined ops {} ⟨fun h => (by cases h), Nat.zero_le 1⟩ h

/-- Known finding D7 (recorded, not repaired): the full statement `∀ ops, countViol {} ops = 0` is false of the code.
`send_with_confirmation("DL:01","DL:")`, `send_and_forget("TL:02")`: the second command is written while the first one's
confirmation is still outstanding (`pause_sending` sets the flag and `await pause_sending_flag.wait()` returns at once). -/
theorem writer_silent_until_confirmed_witness :
    countViol {} [.enq ⟨1, some [68, 76, 58]⟩, .enq ⟨2, none⟩, .step, .step] = 1 ∧
    (wRun {} [.enq ⟨1, some [68, 76, 58]⟩, .enq ⟨2, none⟩, .step, .step]).log = [1, 2] ∧
    (wRun {} [.enq ⟨1, some [68, 76, 58]⟩, .enq ⟨2, none⟩, .step, .step]).flag = true := by
  decide

/-- non-vacuity of the discipline: confirmed command, its confirmation, next command -/
example : disciplined {} [.enq ⟨1, some [68, 76, 58]⟩, .step, .recv [68, 76, 58], .enq ⟨2, none⟩, .step] = true := by decide

/-- OPP resynchronises after idle: whatever garbage `g` arrived (in whatever state it left the decoder), after 11 idle
(EOM) bytes every following well-formed input frame is decoded exactly and the decoder is idle again.  (Unconditional
self-synchronisation of length-framed data is false, hence the idle bytes.) -/
theorem opp_resync_after_idle (g : Bytes) (a : Nat) (p : Bytes) (ha : isAddr a = true) (hp : p.length = 5) :
    feed aStep (feed aStep (feed aStep .idle g).1 (List.replicate 11 EOM)).1 (a :: CMD_INP :: p)
      = (.idle, [a :: CMD_INP :: p]) :=
  resync_after_idle g 11 a _ 5 p (by decide) ha (Or.inl ⟨rfl, rfl⟩) hp

theorem opp_resync_after_idle_matrix (g : Bytes) (a : Nat) (p : Bytes) (ha : isAddr a = true) (hp : p.length = 9) :
    feed aStep (feed aStep (feed aStep .idle g).1 (List.replicate 11 EOM)).1 (a :: CMD_MTX :: p)
      = (.idle, [a :: CMD_MTX :: p]) :=
  resync_after_idle g 11 a _ 9 p (by decide) ha (Or.inr ⟨rfl, rfl⟩) hp

/-- Known finding D7, second half (recorded): a lost response is never retried.  However many time-outs pass after
`send_and_wait_for_response_processed` handed its command over, the command has been written exactly once and the
caller is still waiting (the time-out covers the hand-over to the queue, not the response). -/
theorem lost_response_retried_witness (n maxRetries : Nat) :
    (rRun (rAdvance { maxRetries := maxRetries }) (List.replicate n .timeout)).written = 1 ∧
    (rRun (rAdvance { maxRetries := maxRetries }) (List.replicate n .timeout)).phase = .waitDone := by
  have h0 : rAdvance { maxRetries := maxRetries } =
      { noResp := false, written := 1, maxRetries := maxRetries, phase := .waitDone } := by
    simp [rAdvance]
  rw [h0]
  induction n with
  | zero => simp [rRun]
  | succ k ih =>
    rw [List.replicate_succ]
    simp only [rRun]
    have : rStep { noResp := false, written := 1, maxRetries := maxRetries, phase := .waitDone } .timeout
        = { noResp := false, written := 1, maxRetries := maxRetries, phase := .waitDone } := by
      simp [rStep]
    rw [this]; exact ih

/-- … and the part that holds: when the response does arrive the caller is released, from either waiting place. -/
theorem lost_response_retried_partial (s : RSt) (h : s.phase ≠ .finished) : (rStep s .response).phase = .finished := by
  unfold rStep rAdvance
  cases hp : s.phase <;> simp_all

/-- Known finding (recorded): a frame that is not valid UTF-8 makes `parse_incoming_raw_bytes` raise
(`ignore_decode_errors` is False after connect), i.e. the full statement "every byte stream is decoded without an
exception" is false; what holds is stated on decodable frames. -/
theorem fast_noise_undecodable_witness : fastDispatch [45, 76, 58, 48, 255] = .undecodable := by decide

/-- … and the part that holds: a frame of ASCII bytes is never reported as undecodable (it is dispatched, ignored or
skipped with a warning). -/
theorem fast_ascii_frame_never_raises_partial (f : Bytes) (h : ∀ b ∈ f, b < 128) : fastDispatch f ≠ .undecodable := by
  -- guard by guard: every other branch returns another constructor (a `split` of the unfolded `if`s is slow to check)
  intro hu
  unfold fastDispatch at hu
  replace hu := of_ite_eq hu
  rcases hu with ⟨h128, -⟩ | ⟨-, hu⟩
  · obtain ⟨b, hb, hb128⟩ := List.any_eq_true.mp h128
    have := h b hb
    simp at hb128
    omega
  replace hu := of_ite_eq hu
  rcases hu with ⟨-, hu⟩ | ⟨-, hu⟩
  · cases hu
  dsimp only at hu
  replace hu := of_ite_eq hu
  rcases hu with ⟨-, hu⟩ | ⟨-, hu⟩
  · split at hu <;> cases hu
  replace hu := of_ite_eq hu
  rcases hu with ⟨-, hu⟩ | ⟨-, hu⟩
  · split at hu <;> cases hu
  replace hu := of_ite_eq hu
  rcases hu with ⟨-, hu⟩ | ⟨-, hu⟩
  · split at hu
    · split at hu
      · split at hu <;> cases hu
      · cases hu
    · cases hu
  · cases hu

/-- PKONE: every frame of every byte stream is handled without raising — an empty frame is dropped,
a frame with a non-ASCII byte is skipped with a warning, every other frame is delivered unchanged. -/
theorem pkone_every_frame_handled (f : Bytes) :
    (f = [] → pkDeliver f = .empty) ∧
    (f ≠ [] → (∃ b ∈ f, 128 ≤ b) → pkDeliver f = .skipped) ∧
    (f ≠ [] → (∀ b ∈ f, b < 128) → pkDeliver f = .msg f) := by
  refine ⟨fun h => h ▸ rfl, fun hne h => ?_, fun hne h => ?_⟩
  · simpa [pkDeliver, hne] using h
  · simpa [pkDeliver, hne] using h

/-- PKONE: every well-formed frame after noise is delivered.  Whatever was carried and whatever noise `g` arrived (any
bytes at all), after the next delimiter every following non-empty ASCII frame is delivered exactly, in order. -/
theorem pkone_frames_after_noise_delivered (buf g : Bytes) (fs : List Bytes)
    (h : ∀ f ∈ fs, PKE ∉ f ∧ f ≠ [] ∧ ∀ b ∈ f, b < 128) :
    pkRun (pkRun buf (g ++ [PKE])).1 (fs.flatMap (· ++ [PKE])) = ([], fs.map .msg) := by
  have key := delim_resync_then_delivered 69 buf g fs (fun f hf => (h f hf).1)
  show pkRun (pkRun buf (g ++ [69])).1 (fs.flatMap (· ++ [69])) = _
  unfold pkRun
  rw [key]
  simp only [Prod.mk.injEq, true_and]
  apply List.map_congr_left
  intro f hf
  exact (pkone_every_frame_handled f).2.2 (h f hf).2.1 (h f hf).2.2

/-! ## the protocol code behind the frame decoders (`Model/Framing2.lean`) -/

open MpfVerif.Framing2

/-- PKONE, whole receive path (`_parse_msg` with its in-flight counter and `send_ready`, `process_received_message`,
`receive_switch`, `receive_all_switches`): the complete state after a byte stream — carried bytes, every report made to the
switch controller, `hw_switch_data`, counter, `send_ready` — and the observations do not depend on how the bytes were split
into reads. -/
theorem pkone_payload_chunking_irrelevant (s : PKSt) (c1 c2 : List Bytes) (h : c1.flatten = c2.flatten) :
    feedChunks pkStep s c1 = feedChunks pkStep s c2 :=
  feedChunks_flatten _ _ c1 c2 h

/-- PKONE: a malformed payload never changes a switch.  Whatever frame arrives (any bytes without the delimiter), unless
it is a well-formed `PSW` report the table of reported switch states is untouched, and unless it is a well-formed `PSA`
report `hw_switch_data` is untouched; and a frame is a well-formed `PSW` report only if it is exactly
`PSW` + board digit + two switch digits + `0`/`1` (a truncated, over-long or non-numeric payload reports nothing). -/
theorem pkone_malformed_changes_nothing (s : PKSt) (f : Bytes) (hd : 69 ∉ f) (hb : s.buf = []) :
    ((∀ b n st, pkDispatch f ≠ .sw b n st) → (feed pkStep s (f ++ [69])).1.table = s.table) ∧
    ((∀ b bits, pkDispatch f ≠ .all b bits) → (feed pkStep s (f ++ [69])).1.hw = s.hw) ∧
    (∀ b n st, pkDispatch f = .sw b n st →
      ∃ a y z d, f = [80, 83, 87, a, y, z, d] ∧ digit? a = some b ∧ (∃ t u, digit? y = some t ∧ digit? z = some u ∧
        n = t * 10 + u) ∧ bit? d = some st) := by
  rw [pk_frame f s hd]
  simp only [hb, List.nil_append]
  refine ⟨?_, ?_, ?_⟩
  · intro h
    simp only [pkClose]
    cases hdis : pkDispatch f with
    | sw b n st => exact absurd hdis (h b n st)
    | _ => rfl
  · intro h
    simp only [pkClose]
    cases hdis : pkDispatch f with
    | all b bits => exact absurd hdis (h b bits)
    | _ => rfl
  · exact pkDispatch_sw f

/-- PKONE, state = last report: after any sequence of frames — well-formed or not, for any boards — the state the switch
controller was last told for switch `(b, n)` is the one of the LAST well-formed `PSW` report for it: frames after it that
are not a report for `(b, n)` (malformed ones included) do not matter, and neither does anything before it. -/
theorem pkone_state_is_last_report (s : PKSt) (pre post : List Bytes) (f : Bytes) (b n : Nat) (st : Bool)
    (hb : s.buf = []) (hd : ∀ g ∈ pre ++ f :: post, 69 ∉ g) (hf : pkDispatch f = .sw b n st)
    (hpost : ∀ g ∈ post, ∀ st', pkDispatch g ≠ .sw b n st') :
    lookupSw (b, n) (feed pkStep s ((pre ++ f :: post).flatMap (· ++ [69]))).1.table = some st := by
  rw [pk_frames_table _ s hb hd]
  simp only [List.filterMap_append, List.filterMap_cons, (swOf_eq_some f (b, n) st).mpr hf, List.reverse_append,
    List.reverse_cons, List.append_assoc]
  rw [lookup_skip]
  · simp [lookupSw]
  · intro e he hk
    obtain ⟨g, hg, hge⟩ := List.mem_filterMap.mp (List.mem_reverse.mp he)
    exact hpost g hg e.2 (by have := (swOf_eq_some g e.1 e.2).mp hge; rwa [hk] at this)

/-- PKONE in-flight counter: after any bytes the counter has gone down by the number of delimiters received and never
below zero (truncated subtraction), whatever the frames contained; `send_ready`, once set, is never cleared by the reader. -/
theorem pkone_inflight_counter (s : PKSt) (l : Bytes) :
    (feed pkStep s l).1.inflight = s.inflight - l.count 69 ∧ (s.ready = true → (feed pkStep s l).1.ready = true) :=
  pk_inflight l s

/-- non-vacuity: a report, its truncation (which must not be read as "switch 7 active"), a valid frame after it -/
example : (feed pkStep { inflight := 2 } ([80, 83, 87, 48, 48, 55, 48, 69] ++ [80, 83, 87, 48, 48, 55, 69] ++
    [80, 83, 87, 48, 49, 50, 49, 69])).2 = [.sw 0 7 false, .skipped, .sw 0 12 true] := by decide

/-- OPP initialisation framing: `readuntil(EOM, 7·n)` returns the complete reply of `n` cards — the
`7·n` response bytes and the EOM — whatever the response bytes are, including CRC or payload bytes equal to the EOM
value, and leaves what follows in the stream. -/
theorem opp_readuntil_whole_reply (body rest : Bytes) (n : Nat) (h : body.length = 7 * n) :
    readUntil 255 (7 * n) [] (body ++ 255 :: rest) = some (body ++ [255], rest) := by
  have := readUntil_body 255 (7 * n) body rest [] (by simp [h])
  simpa using this

/-- Why the minimum length is `7·n`: with a minimum length of 6 a card whose GET_GEN2_CFG response has CRC
byte `0xff` (address `0x21`, wings input / hi-side incand / matrix-out / input) ends the reply after 7 bytes; the second
card's response stays in the stream. -/
theorem opp_readuntil_min6_witness :
    crc8 [0x21, 13, 2, 7, 10, 2] = 255 ∧
    readUntil 255 6 [] ([0x21, 13, 2, 7, 10, 2, 255] ++ [0x22, 13, 2, 2, 2, 2, crc8 [0x22, 13, 2, 2, 2, 2]] ++ [255])
      = some ([0x21, 13, 2, 7, 10, 2, 255], [0x22, 13, 2, 2, 2, 2, crc8 [0x22, 13, 2, 2, 2, 2], 255]) := by
  decide +kernel

/-- OPP, several chained cards: the loop of `get_gen2_cfg_resp` / `vers_resp` over a reply that carries the well-formed
responses of any number of cards (one after the other, then EOM) accepts exactly those responses, in chain order. -/
theorem opp_init_all_cards_parsed (cmd : Nat) (c : Nat × Bytes) (cs : List (Nat × Bytes)) (hc : WfCard c)
    (hcs : ∀ x ∈ cs, WfCard x) :
    multiParse cmd ((c :: cs).flatMap (enc cmd) ++ [255]) = (c :: cs, .ok) := by
  induction cs generalizing c with
  | nil => simpa using multiParse_enc_eom cmd c hc
  | cons d r ih =>
    obtain ⟨hd, hr⟩ := List.forall_mem_cons.mp hcs
    have hn : Next cmd ((d :: r).flatMap (enc cmd) ++ [255]) := by
      rw [List.flatMap_cons, List.append_assoc]
      exact next_enc cmd d hd _
    rw [List.flatMap_cons, List.append_assoc, multiParse_enc cmd c hc _ hn, ih d hd hr]

/-- OPP init, a bad frame changes nothing: if the response of one card fails its CRC, exactly the cards before it are
accepted — nothing is taken from the damaged response nor from anything after it — and the loop reports the bad CRC. -/
theorem opp_init_bad_crc_stops (cmd : Nat) (pre : List (Nat × Bytes)) (a w0 w1 w2 w3 k : Nat) (tail : Bytes)
    (hpre : ∀ x ∈ pre, WfCard x) (ha : isAddr a = true) (hk : crc8 [a, cmd, w0, w1, w2, w3] ≠ k) :
    multiParse cmd (pre.flatMap (enc cmd) ++ [a, cmd, w0, w1, w2, w3, k] ++ tail) = (pre, .crc) := by
  rw [List.append_assoc, multi_prefix cmd pre ([a, cmd, w0, w1, w2, w3, k] ++ tail) hpre ⟨a, _, rfl, isAddr_ne_255 a ha⟩]
  rw [multiParse_bad cmd a w0 w1 w2 w3 k tail hk, List.append_nil]

/-- non-vacuity: two cards, the second with a damaged payload byte -/
example : multiParse 13 (enc 13 (0x20, [2, 2, 2, 2]) ++ [0x21, 13, 1, 2, 4, 5, crc8 [0x21, 13, 1, 2, 4, 4]] ++ [255])
    = ([(0x20, [2, 2, 2, 2])], .crc) := by decide +kernel
example : WfCard (0x20, [2, 2, 2, 2]) := ⟨by decide, rfl⟩

/-- FAST configuration phase (`ID:` `CH:` `SL:` `DL:` `SA:` at boot …): what is decoded and what is carried does not
depend on how the bytes were split into reads. -/
theorem fast_cfg_chunking_irrelevant (buf : Bytes) (c1 c2 : List Bytes) (h : c1.flatten = c2.flatten) :
    feedChunks (dStep CR cfgFrame) buf c1 = feedChunks (dStep CR cfgFrame) buf c2 :=
  feedChunks_flatten _ _ c1 c2 h

/-- FAST configuration phase, garbage between frames: whatever was carried and whatever garbage `g` arrived, after the
next `\r` every following response is dispatched exactly as if it had arrived alone, in order (the response glued to the
garbage is the one that can be lost — a delimiter protocol cannot do better). -/
theorem fast_cfg_frames_after_garbage (buf g : Bytes) (fs : List Bytes) (h : ∀ f ∈ fs, CR ∉ f) :
    feed (dStep CR cfgFrame) (feed (dStep CR cfgFrame) buf (g ++ [CR])).1 (fs.flatMap (· ++ [CR]))
      = ([], fs.flatMap cfgFrame) := by
  rw [dStep_delim]
  exact dStep_frames CR cfgFrame fs h

/-- non-vacuity: two `DL:` replies run together after a lost `\r` are skipped as malformed, the
`SL:` reply after them is processed -/
example : (feed (dStep CR cfgFrame) [] ([68, 76, 58, 48, 48, 44, 48, 48, 68, 76, 58, 48, 49, 13] ++
    [83, 76, 58, 48, 48, 44, 48, 48, 44, 48, 48, 44, 48, 48, 13])).2 = [.bad, .done hSL] := by decide

/-- Command order with several callers queued while one is awaited: at every point of every run of calls, fire-and-forget
sends and responses, the gated commands already written followed by the callers still waiting are exactly the callers in
call order — no caller overtakes another, none is dropped, none is written twice. -/
theorem gate_fifo (ops : List GOp) :
    ((gRun {} ops).written.filter (·.1)).map (·.2) ++ (gRun {} ops).waiting = callIds ops := by
  have := gRun_fifo ops {} (by intro _; rfl)
  simpa [gCalls] using this

/-- non-vacuity (and the known finding D7 seen from the callers' side): three callers, one response releases all of them -/
example : (gRun {} [.call 1, .call 2, .forget 9, .call 3, .resp]).written = [(true, 1), (false, 9), (true, 2), (true, 3)] ∧
    (gRun {} [.call 1, .call 2, .forget 9, .call 3, .resp]).fin = [1, 2, 3] := by decide

/-! ## OPP platform level (`Model/Framing3.lean`) -/
open MpfVerif.Framing3

/-- OPP initial reads (`read_gen2_inp_resp_initial` / `read_matrix_inp_resp_initial` behind `_parse_msg`): after ANY
list of delivered frames - good, wrong CRC, unknown card, other card - the `old_state` of card `(matrix?, address)` is
what the last frame with a correct CRC for that card said, and what it was before if there was none.  `lastGood` is the
specification: it looks at nothing but the frames' own content.  Hence a frame with a wrong checksum changes no card. -/
theorem opp_initial_state_is_last_report (fs : List Bytes) (c : ChainSt) (m : Bool) (a : Nat) :
    oldOf m a (fs.foldl initFrame c).cards = (oldOf m a c.cards).map (fun o => lastGood m a o fs) :=
  initFrames_spec fs c m a

/-- OPP steady state (`read_gen2_inp_resp` / `read_matrix_inp_resp`), for every card of every chain: if MPF's switch
states mirror the cards (`Mirror`: every input's state is the complement of its `old_state` bit - inputs are active
low), then after ANY list of delivered frames they still do, and `old_state` is the payload of the last frame with a
correct CRC for that card.  Together: MPF's switch states equal the last report from each board. -/
theorem opp_steady_state_is_last_report (fs : List Bytes) (c : ChainSt) (m : Bool) (a : Nat) (h : Mirror c.cards) :
    oldOf m a (steadyFrames c fs).1.cards = (oldOf m a c.cards).map (fun o => lastGood m a o fs) ∧
    Mirror (steadyFrames c fs).1.cards :=
  steadyFrames_spec fs c m a h

/-- `get_hw_switch_states` after the initial reads establishes `Mirror` (and leaves every `old_state` alone) whenever it
returns at all, whatever frames the initial reads delivered. -/
theorem opp_hw_states_mirror_initial_reads (fs : List Bytes) (c : ChainSt) (cs' : List OCard) (hl : LenOk c.cards)
    (h : hwCards (fs.foldl initFrame c).cards = some cs') :
    Mirror cs' ∧ ∀ m a, oldOf m a cs' = (oldOf m a c.cards).map (fun o => lastGood m a o fs) := by
  obtain ⟨h1, h2⟩ := hwCards_spec _ cs' h (initFrames_lenOk fs c hl)
  exact ⟨h1, fun m a => by rw [h2, initFrames_spec]⟩

/-- a frame with a wrong checksum changes no card and produces no switch event, in either phase -/
theorem opp_platform_bad_crc_changes_nothing (c : ChainSt) (f : Bytes) (h : decode f = .badCrc) :
    (initFrame c f).cards = c.cards ∧ (steadyFrame c f).1.cards = c.cards ∧ (steadyFrame c f).2 = [] ∧
    (steadyFrame c f).1.badCrc = c.badCrc + 1 := by
  simp [initFrame, steadyFrame, h]

/-- the steady-state reader (`_parse_msg` + handlers) on a chain: two ways of splitting the same bytes into reads give
the same cards (old_state and MPF's switch states), the same switch events and the same bad-CRC count -/
theorem opp_platform_chunking_irrelevant (c : ChainSt) (hq : Quiet c.ps) (c1 c2 : List Bytes)
    (h : c1.flatten = c2.flatten) :
    (steadyReads c c1).1.cards = (steadyReads c c2).1.cards ∧ (steadyReads c c1).2 = (steadyReads c c2).2 ∧
    (steadyReads c c1).1.badCrc = (steadyReads c c2).1.badCrc := by
  rw [steadyReads_eq c1 c, steadyReads_eq c2 c, (opp_chunking_irrelevant_from c.ps hq c1 c2 h).1]
  exact ⟨rfl, rfl, rfl⟩

/-- several chains: a read on chain `i` (initial or steady state) leaves every other chain's parser state, cards and
counters exactly as they were -/
theorem opp_chains_independent (s : OSt) (i j : Nat) (k : Bytes) (h : i ≠ j) :
    (oStep s (.initRead i k)).1.chains[j]? = s.chains[j]? ∧ (oStep s (.read i k)).1.chains[j]? = s.chains[j]? := by
  constructor
  · exact modChain_other i j _ s h
  · show (if s.steady then _ else _ : OSt × List OEv).1.chains[j]? = _
    split
    · exact modChain_other i j _ s h
    · exact modChain_other i j _ s h

/-- `_read_id` accepts exactly the well-formed 8 byte answers: address 0x20, command 0, four serial bytes, their CRC-8,
EOM - and returns the big-endian serial number -/
theorem opp_read_id_iff (r : Bytes) (n : Nat) :
    readId r = some n ↔ ∃ s0 s1 s2 s3, r = [32, 0, s0, s1, s2, s3, crc8 [32, 0, s0, s1, s2, s3], 255] ∧
      n = be32 [s0, s1, s2, s3] := by
  constructor
  · intro h
    unfold readId at h
    split at h
    · split at h
      · rename_i a c s0 s1 s2 s3 k e hc
        obtain ⟨h1, h2, h3, h4⟩ := hc
        subst h1 h3 h4
        injection h with h
        exact ⟨s0, s1, s2, s3, by rw [h2], h.symm⟩
      · cases h
    · cases h
  · rintro ⟨s0, s1, s2, s3, rfl, rfl⟩
    simp [readId]

/-- observation (outside the property, kept visible): a matrix card whose initial read arrives with a wrong CRC is
counted as read - the connection is registered - but its `old_state` is still the `[0, 0]` placeholder, and
`get_hw_switch_states` then raises (`TypeError` in the implementation) -/
theorem opp_initial_bad_crc_counted_witness :
    let c : ChainSt := { cards := [{ addr := 32, mtx := true, mask := [], old := none }], need := 1 }
    let c' := initRead c [32, 25, 1, 2, 3, 4, 5, 6, 7, 8, 0, 255]
    c'.reg = true ∧ c'.badCrc = 1 ∧ oldOf true 32 c'.cards = some none ∧ hwCards c'.cards = none := by decide +kernel

/-- observation (outside the property): an init reply that ends in `lost_synch()` arrives before the connection is
registered: `KeyError` (here a reply whose first byte is no address); once registered it is just `lost_synch()` -/
theorem opp_lost_synch_unregistered_witness :
    initDispatchU false [] [0x41, 0xff] = none ∧ (initDispatchU true [] [0x41, 0xff]).isSome = true := by decide

/-- non-vacuity: one input card; `lastGood` over two good reports with bad-CRC frames in between, one initial read,
and a frame that `decode` rejects for its CRC -/
example :
    let c : ChainSt := { cards := [{ addr := 32, mtx := false, mask := [], old := some (List.replicate 32 false) }], need := 1 }
    let f1 := [32, 8, 255, 255, 255, 254, crc8 [32, 8, 255, 255, 255, 254]]
    let f2 := [32, 8, 255, 255, 255, 253, crc8 [32, 8, 255, 255, 255, 253]]
    let bad := [32, 8, 0, 0, 0, 0, 0]
    lastGood false 32 none [f1, bad, f2, bad] = some (beBits [255, 255, 255, 253]) ∧
    oldOf false 32 ([f1].foldl initFrame c).cards = some (some (beBits [255, 255, 255, 254])) ∧
    decode bad = .badCrc := by decide +kernel

/-! ## FAST node discovery, PKONE connect phase (`Model/Framing3.lean`) -/

/-- FAST node discovery: whatever an `NN:` response contains, it either leaves the board table alone or appends exactly
one board - for a node inside the configured loop that was not registered before, all of whose predecessors are
registered, with the running totals of their switch and driver counts as its first switch / driver number. -/
theorem fast_nn_registers_consistently (s : NNSt) (p : Bytes) :
    (nnProcess s p).1.boards = s.boards ∨
    ∃ b, (nnProcess s p).1.boards = s.boards ++ [b] ∧ b.node < s.loop.length ∧ findBoard b.node s.boards = none ∧
      priorOf b.node s.boards = some (b.startSw, b.startDr) := by
  -- guard by guard down to the one branch that registers a board; all others return `s` unchanged
  generalize hr : nnProcess s p = r
  have same : ∀ o, (s, o) = r → r.1.boards = s.boards := fun o h => h ▸ rfl
  unfold nnProcess at hr
  replace hr := of_ite_eq hr
  rcases hr with ⟨-, hr⟩ | ⟨-, hr⟩
  · exact Or.inl (same _ hr)
  split at hr
  · split at hr
    · rename_i n0 d0 w0 _ _ _
      extract_lets node model at hr
      replace hr := of_ite_eq hr
      rcases hr with ⟨-, hr⟩ | ⟨-, hr⟩
      · exact Or.inl (same _ hr)
      replace hr := of_ite_eq hr
      rcases hr with ⟨-, hr⟩ | ⟨hnew, hr⟩
      · exact Or.inl (same _ hr)
      split at hr
      · exact Or.inl (same _ hr)
      · rename_i cfg hcfg
        replace hr := of_ite_eq hr
        rcases hr with ⟨-, hr⟩ | ⟨-, hr⟩
        · exact Or.inl (same _ hr)
        split at hr
        · exact Or.inl (same _ hr)
        · rename_i ps pd hpr
          -- the board is registered before the firmware version is looked at
          extract_lets s' at hr
          have : r.1 = s' := by
            split at hr
            · exact hr ▸ rfl
            · replace hr := of_ite_eq hr
              rcases hr with ⟨-, hr⟩ | ⟨-, hr⟩
              · exact hr ▸ rfl
              · exact hr ▸ rfl
          exact Or.inr ⟨_, by rw [this], (List.getElem?_eq_some_iff.mp hcfg).1, by simpa using hnew, hpr⟩
    · exact Or.inl (same _ hr)
  · exact Or.inl (same _ hr)

/-- the configuration-phase decoder with node discovery: independent of the chunking -/
theorem fast_nn_chunking_irrelevant (s : NNSt × Bytes) (c1 c2 : List Bytes) (h : c1.flatten = c2.flatten) :
    feedChunks cfgStep3 s c1 = feedChunks cfgStep3 s c2 :=
  feedChunks_flatten _ _ c1 c2 h

/-- non-vacuity: two boards in loop order; a response for node 5 of a two-board loop and a response for node 1 before
node 0 are skipped -/
example :
    let s : NNSt := { loop := [[65], [66]] }
    (nnProcess s ([48, 48, 44, 65, 44] ++ [49, 46, 57] ++ [44, 48, 56, 44, 50, 48, 44, 48, 44, 48, 44, 48, 44, 48, 44, 48, 44, 48])).1.boards
      = [{ node := 0, sw := 32, dr := 8, startSw := 0, startDr := 0 }] ∧
    (nnProcess s ([48, 53, 44, 65, 44] ++ [49, 46, 57] ++ [44, 48, 56, 44, 50, 48, 44, 48, 44, 48, 44, 48, 44, 48, 44, 48, 44, 48])).2 = .bad ∧
    (nnProcess s ([48, 49, 44, 66, 44] ++ [49, 46, 57] ++ [44, 48, 56, 44, 50, 48, 44, 48, 44, 48, 44, 48, 44, 48, 44, 48, 44, 48])).2 = .bad := by
  decide

/-- PKONE connect phase: a `PCB` reply registers an extension board only if it is
`PCB` digit `X` `F` firmware-digits `H` revision-digits followed by one of the nine legal tails, with at least two
firmware digits; everything else registers nothing (no board / an exception that ends the connect) -/
theorem pkone_pcb_ext_only_wellformed (a : Nat) (m f h : Bytes) (hx : pcbParse a m = .ext f h) :
    ∃ d tl, m = [80, 67, 66, d, 88, 70] ++ f ++ [72] ++ h ++ tl ∧ (tailOf tl pcbTails).isSome = true ∧
      2 ≤ f.length ∧ (∀ x ∈ f, isDig x = true) ∧ (∀ x ∈ h, isDig x = true) := by
  -- guard by guard down to the one branch that returns `.ext`
  unfold pcbParse at hx
  replace hx := of_ite_eq hx
  rcases hx with ⟨-, hx⟩ | ⟨-, hx⟩
  · cases hx
  split at hx
  · rename_i d t r
    replace hx := of_ite_eq hx
    rcases hx with ⟨-, hx⟩ | ⟨-, hx⟩
    · split at hx
      · rename_i r2 hr
        replace hx := of_ite_eq hx
        rcases hx with ⟨-, hx⟩ | ⟨-, hx⟩
        · split at hx
          · rename_i w hw
            replace hx := of_ite_eq hx
            rcases hx with ⟨ht, hx⟩ | ⟨-, hx⟩
            · obtain ⟨e, hlen⟩ := fwCheck_eq _ _ _ hx nofun nofun
              injection e with e1 e2
              subst ht e1 e2
              refine ⟨d, (spanDig r2).2, ?_, by simp [hw], hlen, spanDig_digits r, spanDig_digits r2⟩
              have e1 := spanDig_append r
              rw [hr] at e1
              simp only [List.cons_append, List.nil_append, List.append_assoc, List.cons.injEq, true_and]
              rw [spanDig_append r2, e1]
            · replace hx := of_ite_eq hx
              rcases hx with ⟨-, hx⟩ | ⟨-, hx⟩
              · have e := (fwCheck_eq _ _ _ hx nofun nofun).1
                split at e <;> cases e
              · cases hx
          · cases hx
        · cases hx
      · cases hx
    · cases hx
  · cases hx

example : pcbParse 0 [80, 67, 66, 48, 88, 70, 49, 49, 72, 50, 80, 89, 69] = .ext [49, 49] [50] ∧
    pcbParse 3 [80, 67, 66, 50, 76, 70, 49, 48, 72, 49, 82, 71, 66, 87, 69] = .light [49, 48] [49] true ∧
    pcbParse 4 [80, 67, 66, 52, 78, 69] = .noBoard ∧ pcbParse 4 [] = .attrErr ∧
    pcnParse [80, 67, 78, 70, 49, 49, 72, 49, 69] = .ctrl [49, 49] [49] ∧ pcnParse [80, 67, 78, 70, 57, 72, 49, 69] = .valErr := by
  decide

end MpfVerif.C14
