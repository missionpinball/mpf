import MpfVerif.Lemmas.QueueEvent
import MpfVerif.Lemmas.EventBus
/-!
# C02 — Queue, relay and boolean events complete exactly once and in order

Property theorems only.  Queue events: `Model/QueueEvent.lean` (dispatch tasks, `QueuedEvent` cells, every scheduler
choice an explicit input); relay / boolean events: `_run_handlers` of `Model/EventBus.lean`.  `progs` (what every
handler and callback does, incl. kwargs, conditions, coroutine handlers, wait futures, `stop()`) is universally
quantified; schedules are arbitrary because every theorem is about one arbitrary step from an arbitrary state.
-/
namespace MpfVerif.C02
open MpfVerif.QueueEvent

/-- Order and no overlap inside one queue event: a scheduler step of a dispatch task invokes the handlers of a prefix
`pre` of the remaining snapshot whose condition holds on the merged kwargs (`eligible`: posted kwargs overridden by the
handler's own), in snapshot (= priority) order; it either reaches the end — then it logs the completion callback
exactly once and is done — or it stops right behind the first handler that left its wait registered and sleeps, the
remaining handlers `post` untouched and no callback logged.  So handler i+1 never starts in the step in which handler
i registered a wait (and, by `blocked_until_cleared`, in no later step before that wait is cleared). -/
theorem seq_order (progs : Nat → Prog) (t : Task) (hs : List Handler) (st : St) :
    ∃ pre post, hs = pre ++ post ∧
      callKeys (runTask progs t hs st).1.log = callKeys st.log ++ (eligible t.kw pre).map (·.key) ∧
      (((runTask progs t hs st).2.done = true ∧ post = [] ∧ (runTask progs t hs st).2.awaiting = none ∧
          cbs (runTask progs t hs st).1.log = cbs st.log ++ [t.sn]) ∨
       ((runTask progs t hs st).2.done = t.done ∧ eligible t.kw pre ≠ [] ∧ (runTask progs t hs st).2.rest = some post ∧
          (∃ c e, (runTask progs t hs st).2.awaiting = some (c, e)) ∧
          cbs (runTask progs t hs st).1.log = cbs st.log)) := by
  -- one case per branch of `runTask`
  fun_induction runTask progs t hs st
  -- snapshot finished: the callback
  case case1 st =>
    have hl := runCallback_log progs st t.cb t.sn t.passed t.kw
    exact ⟨[], [], rfl, hl.2.trans (List.append_nil _).symm, Or.inl ⟨rfl, rfl, rfl, hl.1⟩⟩
  case case2 h hs st hc ih =>
    -- condition false: `continue`
    obtain ⟨pre, post, hsplit, hkeys, hcase⟩ := ih
    have he : eligible t.kw (h :: pre) = eligible t.kw pre := List.filter_cons_of_neg (by simpa using hc)
    exact ⟨h :: pre, post, by rw [hsplit]; rfl, he ▸ hkeys, he ▸ hcase⟩
  case case3 h hs st hc _ p _ _ hw _ =>
    -- the handler left its wait registered: sleep
    have hl := body_log st p.async h.key t.ev t.sn (kwUpdate t.kw h.kw) p.acts
    have he : eligible t.kw [h] = [h] := List.filter_cons_of_pos (by simpa using hc)
    exact ⟨[h], hs, rfl, by rw [he]; exact hl.2, Or.inr ⟨rfl, by simp [he], rfl, ⟨_, _, rfl⟩, hl.1⟩⟩
  case case4 h hs st hc _ p _ _ hw ih =>
    -- no wait left: go on; `pre` grows by `h`, hence is non-empty if the task sleeps later
    have hl := body_log st p.async h.key t.ev t.sn (kwUpdate t.kw h.kw) p.acts
    have he : ∀ pre, eligible t.kw (h :: pre) = h :: eligible t.kw pre :=
      fun _ => List.filter_cons_of_pos (by simpa using hc)
    obtain ⟨pre, post, hsplit, hkeys, hcase⟩ := ih
    refine ⟨h :: pre, post, by rw [hsplit]; rfl, hkeys.trans (by rw [hl.2, List.append_assoc, he]; rfl), ?_⟩
    rw [he, ← hl.1]
    exact hcase.imp id fun ⟨hd, _, hr⟩ => ⟨hd, List.cons_ne_nil _ _, hr⟩

/-- A sleeping task cannot be resumed by any scheduler while the `asyncio.Event` it sleeps on is not set. -/
theorem blocked_until_cleared (progs : Nat → Prog) (st : St) (t : Task) (hs : List Handler) (c e : Nat)
    (hr : t.rest = some hs) (ha : t.awaiting = some (c, e)) (hne : st.setEvts.contains e = false) :
    stepTask progs st t = none := by
  fun_cases stepTask progs st t <;> simp_all

/-- `clear` on the cell a dispatcher sleeps on sets exactly that dispatcher's event: the task is enabled again
(no lost wake-up when every handler has its own cell). -/
theorem clear_enables (st : St) (c e : Nat) (hw : (getCell st.cells c).waiter = true)
    (he : (getCell st.cells c).event = some e) : (clearCell st c).setEvts.contains e = true := by
  unfold clearCell
  simp [hw, he]

/-- The completion callback fires at most once, and exactly when the task finishes: a finished task (and a task
cancelled by `EventManager.stop()`) can never be stepped again; a step of an unfinished task either finishes it and logs
its callback once, or logs no callback. -/
theorem cb_once (progs : Nat → Prog) (st : St) (t : Task) :
    (t.done = true ∨ t.cancelled = true → stepTask progs st t = none) ∧
    (∀ st' t', stepTask progs st t = some (st', t') →
      (t'.done = true ∧ cbs st'.log = cbs st.log ++ [t.sn]) ∨ (t'.done = false ∧ cbs st'.log = cbs st.log)) := by
  refine ⟨fun hd => by rcases hd with hd | hd <;> simp [stepTask, hd], fun st' t' h => ?_⟩
  obtain ⟨t0, hs, hsn, hd0, hrun⟩ := stepTask_eq_some progs st t _ h
  have hstep := seq_order progs t0 hs st
  rw [← hrun] at hstep
  obtain ⟨_, _, _, _, ⟨hd, _, _, hc⟩ | ⟨hd, _, _, _, hc⟩⟩ := hstep
  · exact Or.inl ⟨hd, hsn ▸ hc⟩
  · exact Or.inr ⟨hd.trans hd0, hc⟩

/-- A coroutine handler (`add_async_handler`) that ends — by returning **or because its task was cancelled** (the future
it awaited was cancelled, it raised `CancelledError`, somebody cancelled the task) — clears the wait registered for it:
`_async_handler_done` is then exactly `queue.clear()`, so the dispatcher sleeping on that cell is enabled again
(`clear_enables`).  Only a coroutine that raised another exception leaves the wait in place. -/
theorem async_done_clears (st : St) (c e : Nat) (o : Outcome) (ho : o ≠ .raised)
    (hw : (getCell st.cells c).waiter = true) (he : (getCell st.cells c).event = some e) :
    asyncDone st c o = clearCell st c ∧ (asyncDone st c o).setEvts.contains e = true ∧
      (getCell (asyncDone st c o).cells c).waiter = false := by
  have hc : c < st.cells.length := Nat.lt_of_not_le fun hle => by
    simp [getCell, List.getD, List.getElem?_eq_none hle] at hw
  have h1 : asyncDone st c o = clearCell st c := by cases o <;> simp_all [asyncDone]
  rw [h1]
  simp [clearCell, hw, he, getCell_setCell _ _ _ hc]

/-- `EventManager.stop()`: every dispatch task that exists at that moment is finished or cancelled, and a cancelled task
can never be stepped again in any later state — none of its remaining handlers and not its callback will run; queue
events posted after `stop()` are refused. -/
theorem stop_cancels (progs : Nat → Prog) (st st' : St) (own passed : Option Nat) (ev cb : Nat) (pass : Bool) (kw : Kw) :
    (∀ t ∈ (stopAll st).tasks, stepTask progs st' t = none) ∧ (stopAll st).stopped = true ∧
    (runAct own passed (stopAll st) (.postQueue ev cb pass kw)).pending = st.pending := by
  refine ⟨?_, rfl, by simp [runAct, stopAll]⟩
  intro t ht
  simp only [stopAll, List.mem_map] at ht
  obtain ⟨t0, _, rfl⟩ := ht
  by_cases hd : t0.done = true <;> simp [stepTask, hd]

/-- every step of a task makes progress: it consumes at least one handler of the snapshot or finishes the task -/
theorem step_progress (progs : Nat → Prog) (t : Task) (hs : List Handler) (st : St) :
    (runTask progs t hs st).2.done = true ∨
      ∃ post, (runTask progs t hs st).2.rest = some post ∧ post.length < hs.length := by
  obtain ⟨pre, post, hsplit, _, hcase⟩ := seq_order progs t hs st
  rcases hcase with ⟨hd, _⟩ | ⟨_, hp, hr, _⟩
  · exact Or.inl hd
  · refine Or.inr ⟨post, hr, ?_⟩
    have := List.length_pos_iff.mpr fun h : pre = [] => hp (by rw [h]; rfl)
    rw [hsplit, List.length_append]
    omega

/-- Relay events: the kwargs handed to the callback are the left fold of the handlers' returned dicts over the posted
kwargs, and every handler is called with the fold so far (merged with its own kwargs) — for all handler programs. -/
theorem relay_fold (progs : Nat → EventBus.Prog) (ev sn : Nat) (hs : List EventBus.Handler) (c : EventBus.Core)
    (kw : EventBus.Kw) :
    (EventBus.runHandlers progs ev sn .relay hs c kw .none).1.log = c.log ++ EventBus.relayCalls progs ev sn hs kw ∧
    (EventBus.runHandlers progs ev sn .relay hs c kw .none).2.1 = EventBus.relayFold progs hs kw :=
  EventBus.runHandlers_relay progs ev sn hs c kw .none

/-- Boolean events: handlers are called up to and including the first one that returns `False`, none after it, and
then (and only then) the callback's kwargs carry `ev_result = False`. -/
theorem boolean_stops (progs : Nat → EventBus.Prog) (ev sn : Nat) (hs : List EventBus.Handler) (c : EventBus.Core)
    (kw : EventBus.Kw) :
    (EventBus.runHandlers progs ev sn .boolean hs c kw .none).1.log = c.log ++ EventBus.boolCalls progs ev sn kw hs ∧
    (EventBus.runHandlers progs ev sn .boolean hs c kw .none).2.1 =
      (if EventBus.boolStops progs kw hs then EventBus.kwSet kw EventBus.evResult (.bool false) else kw) :=
  EventBus.runHandlers_boolean progs ev sn hs c kw .none

/-! ### non-vacuity -/

def exProgs : Nat → Prog
  | 1 => ⟨[.wait], false⟩          -- waits, cleared later by a timer
  | 2 => ⟨[], false⟩
  | 3 => ⟨[], true⟩                -- coroutine handler
  | 4 => ⟨[.wait, .postQueue 2 8 true []], false⟩   -- the Mode.start / use_wait_queue pattern
  | 8 => ⟨[.clearPassed], false⟩
  | _ => ⟨[], false⟩

def exSt : St := dispatch (runActs none none {} [.add 1 ⟨10, 0, 1, [], none⟩, .add 1 ⟨11, 2, 2, [(1, 7), (2, 3)], some (1, 7)⟩,
  .add 1 ⟨12, -1, 3, [], none⟩, .add 1 ⟨13, -2, 4, [], none⟩, .add 1 ⟨15, 1, 2, [], some (1, 6)⟩, .add 2 ⟨14, 0, 2, [], none⟩, .postQueue 1 9 false [(1, 5)]])

/-- a schedule: start; blocked; clear cell 1; resume (coroutine handler waits); clear; resume (handler 13 waits and
posts the inner event with its cell); inner event runs, its callback clears the outer cell; outer finishes -/
example : (do
    let s1 ← resume exProgs exSt 0
    let s2 ← resume exProgs (clearCell s1 1) 0
    let s3 ← resume exProgs (clearCell s2 2) 0
    let s4 ← callbacks exProgs 10 s3
    let s5 ← resume exProgs s4 1
    let s6 ← resume exProgs s5 0
    pure (s6.log.map showObs, (resume exProgs s1 0).isNone, (resume exProgs s6 0).isNone)) =
    some (["c11.1.0.0{1=7,2=3}", "c10.1.0.1{1=5}", "a1.0.2{1=5}", "c13.1.0.3{1=5}", "c14.2.1.4{}", "b8.1{}", "b9.0{1=5}"],
      true, true) := by decide +kernel

/-- the coroutine handler's task ends cancelled: same schedule, the dispatcher goes on -/
example : (do
    let s1 ← resume exProgs exSt 0
    let s2 ← resume exProgs (clearCell s1 1) 0
    let s3 ← resume exProgs (asyncDone s2 2 .cancelled) 0
    pure (s3.log.length, (resume exProgs (asyncDone s2 2 .raised) 0).isNone)) = some (4, true) := by decide +kernel

/-- stop() while the first handler's wait is outstanding: the task is dead although its wait gets cleared afterwards -/
example : (do
    let s1 ← resume exProgs exSt 0
    let s2 := clearCell (runActs none none s1 [.stop, .postQueue 1 9 false []]) 1
    pure ((resume exProgs s2 0).isNone, s2.pending.length, (applyOp exProgs s2 .dispatch).map (·.tasks.length))) =
    some (true, 0, some 1) := by decide +kernel

end MpfVerif.C02
