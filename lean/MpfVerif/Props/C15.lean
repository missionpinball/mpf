import MpfVerif.Lemmas.Writer
import MpfVerif.Model.MachineVars
/-!
# C15 — Persistent data is durable, never torn, survives write failures

Property theorems only (model: `Model/Writer.lean`, invariants: `Lemmas/Writer.lean`).
-/
namespace MpfVerif.C15
open MpfVerif.Writer

/-- Never torn: after *every* interleaving of `save_all` calls, shutdown, writer-thread steps, injected I/O errors and
crashes (at any point, including between the temp-file write and the rename), the file content is the start-up content
or one of the values that were handed to `save_all` — never a partial or mixed one. -/
theorem disk_never_torn (ops : List Op) : (run {} ops).disk = 0 ∨ (run {} ops).disk ∈ savesOf ops := by
  have h : Safe (run {} ops) := safe_run ops ⟨Or.inl rfl, Or.inl rfl, Or.inl rfl, nofun⟩
  exact h.1.imp id fun hm => by simpa [(run_saves ops {}).1] using hm

/-- non-vacuity: a crash between the temp-file write and the rename leaves the old value; a failed write leaves the old
value; a completed cycle leaves the new one -/
example : (run {} [.save 7, .step, .step, .step, .step, .step, .step, .crash]).disk = 0 := by decide
example : (run {} [.save 7, .step, .step, .step, .step, .step, .fail, .step, .save 8]).disk = 0 := by decide
example : (run {} [.save 7, .step, .step, .step, .step, .step, .step, .step]).disk = 7 := by decide

/-- Flush on shutdown, safety half: in every run without injected faults, whenever the writer thread has exited and the
dirty flag is clear, the file holds exactly the last saved value (D9: the final flush really writes). -/
theorem flush_on_shutdown (ops : List Op) (hf : ∀ o ∈ ops, isFault o = false)
    (hdone : (run {} ops).pc = .done) (hclean : (run {} ops).dirty = false) :
    (run {} ops).disk = (run {} ops).data :=
  (settle (s := {}) ⟨rfl, fun _ => rfl⟩ ops hf (by rw [hdone]; rfl) hclean).trans (run_saves ops {}).2.symm

/-- Flush on shutdown, progress half: from any state reached without faults before shutdown was requested, once
shutdown is requested and no further `save_all` arrives, the thread terminates within 12 of its own steps and the file
then equals the last saved value — wherever the thread was (sleeping, waiting, between clear and copy, inside a save). -/
theorem flush_on_shutdown_terminates (ops : List Op) (hf : ∀ o ∈ ops, isFault o = false)
    (hs : (run {} ops).stop = false) :
    let s := run (run {} ops) (.shutdown :: List.replicate 12 .step)
    s.pc = .done ∧ s.disk = (run {} ops).data ∧ s.dirty = false := by
  intro s
  have h : Good (run {} ops) := good_run ops ⟨rfl, fun _ => rfl⟩ hf
  have hS : Sane (run {} ops) := sane_run ops ⟨rfl, trivial⟩ fun o ho hc => by cases hc ▸ hf o ho
  have hl := hS.loop hs
  -- where the drain ends is a matter of the control skeleton alone, checked from each point of the loop; `done` absorbs,
  -- so any count that suffices from the farthest point (`cpy` with the flag set again: 10) would do
  have hc : ctl s = (.done, false, true, false) := by
    rw [ctl_run, hs, hS.busy (ne_dead_of_loop hl)]
    revert hl
    generalize (run {} ops).pc = pc, (run {} ops).dirty = dirty
    intro hl
    cases pc
    case fchk | fspin | fclr | fcpy | fwr | fren | done | dead => cases hl
    all_goals cases dirty <;> decide
  have hpc : s.pc = .done := congrArg (·.1) hc
  have hdirty : s.dirty = false := congrArg (·.2.1) hc
  exact ⟨hpc, settle h _ (by decide) (by rw [hpc]; rfl) hdirty, hdirty⟩

/-- non-vacuity (the D9 history): saves 1, 2, 3 around a running writer, then shutdown: 3 is on disk -/
example : (run {} ([.save 1, .step, .step, .step, .step, .save 2, .step, .step, .save 3] ++
    .shutdown :: List.replicate 12 .step)).disk = 3 := by decide

/-- The busy flag is released (D8): in every crash-free run — with any number of failing writes and renames —
`FileManager.is_busy` is clear whenever the thread is not inside `FileManager.save`. -/
theorem busy_released_after_failure (ops : List Op) (hc : ∀ o ∈ ops, o ≠ .crash)
    (hp : (run {} ops).pc ≠ .wr ∧ (run {} ops).pc ≠ .ren ∧ (run {} ops).pc ≠ .fwr ∧ (run {} ops).pc ≠ .fren ∧
          (run {} ops).pc ≠ .dead) :
    (run {} ops).busy = false := by
  obtain ⟨hwr, hren, hfwr, hfren, hdead⟩ := hp
  rw [(sane_run ops ⟨rfl, trivial⟩ hc).busy hdead]
  revert hwr hren hfwr hfren
  generalize (run {} ops).pc = pc
  intro hwr hren hfwr hfren
  cases pc
  case wr => exact absurd rfl hwr
  case ren => exact absurd rfl hren
  case fwr => exact absurd rfl hfwr
  case fren => exact absurd rfl hfren
  all_goals rfl

/-- A failure does not wedge the writer: after any crash-free history — including failed temp-file writes and failed
renames — and before shutdown, a value handed to `save_all` is on disk after at most 10 further thread steps
(one writer cycle), wherever the thread was. -/
theorem failure_does_not_wedge (ops : List Op) (hc : ∀ o ∈ ops, o ≠ .crash) (hs : (run {} ops).stop = false) (d : Nat) :
    (run (run {} ops) (.save d :: List.replicate 10 .step)).disk = d := by
  have h : Sane (run {} ops) := sane_run ops ⟨rfl, trivial⟩ hc
  have hl := h.loop hs
  rw [run]
  -- from the save on nothing fails; where the ten steps end is a matter of the control skeleton alone: 10 is a count at
  -- which every point of the loop is back outside a save cycle with the dirty flag clear (the loop does not absorb)
  have hc : idle (ctl (run (step (run {} ops) (.save d)) (List.replicate 10 .step))).1 = true ∧
      (ctl (run (step (run {} ops) (.save d)) (List.replicate 10 .step))).2.1 = false := by
    rw [ctl_run]
    dsimp only [step]
    rw [hs, h.busy (ne_dead_of_loop hl)]
    revert hl
    generalize (run {} ops).pc = pc
    intro hl
    cases pc
    case fchk | fspin | fclr | fcpy | fwr | fren | done | dead => cases hl
    all_goals decide
  exact settle (good_of_save h hs d) _ (by decide) hc.1 hc.2

/-- non-vacuity: a failed write followed by a later save -/
example : (run {} ([.save 7, .step, .step, .step, .step, .step, .fail] ++ .save 8 :: List.replicate 10 .step)).disk = 8 := by
  decide

/-- Persistent variables reload: the (name, value) pairs restored at the next boot at time `t` from what
`_write_machine_vars_to_disk` wrote are exactly the variables that were marked persistent, with the value they had, whose
expiry time is unset (or 0) or not before `t` — nothing else, and nothing altered. -/
theorem vars_reload (vs : List MachineVars.MV) (t n : Nat) (val : Option Int) :
    (n, val) ∈ MachineVars.reload (MachineVars.snapshot vs) t ↔
      ∃ v ∈ vs, v.name = n ∧ v.value = val ∧ v.persist = true ∧ MachineVars.expired v.timeout t = false := by
  simp only [MachineVars.reload, MachineVars.snapshot, List.filterMap_filterMap, List.mem_filterMap]
  refine exists_congr fun v => and_congr_right fun _ => ?_
  cases hp : v.persist <;> cases hx : MachineVars.expired v.timeout t <;> simp [hx]

/-- non-vacuity: a persisted credit-like variable with a one-hour expiry set at t=100 reloads at t=3700 and not at 3701;
a non-persisted one never does -/
example : MachineVars.reload (MachineVars.setVar (MachineVars.setVar
      { vars := MachineVars.configure [] 100 1 true 3600 } 100 1 (some 5) false) 100 2 (some 9) false).file 3700
    = [(1, some 5)] := by decide
example : MachineVars.reload (MachineVars.setVar { vars := MachineVars.configure [] 100 1 true 3600 } 100 1 (some 5) false).file 3701
    = [] := by decide

end MpfVerif.C15
