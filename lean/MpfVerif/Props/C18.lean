import MpfVerif.Lemmas.LogicBlock
import MpfVerif.Lemmas.LogicBlockGen
import MpfVerif.Lemmas.StateMachine
/-!
# C18 — logic blocks count, accrue and sequence exactly as specified

Property theorems, the trace totals they are stated with (`total`, `countSteps` and their extended twins) and demo configurations
(model: `Model/LogicBlock.lean`, `Model/StateMachine.lean`; lemmas: `Lemmas/LogicBlock.lean`, `Lemmas/LogicBlockGen.lean`, `Lemmas/StateMachine.lean`).  Every theorem
quantifies over all configurations `c` and all states `s` / all op sequences; nothing is assumed about reachability
unless stated.  Events are read off the trace the model returns (`run` / `xrun`), i.e. from what the real device posts.
-/
namespace MpfVerif.C18
open MpfVerif.LogicBlock

/-- total of a per-step count over a trace -/
def total (f : List Obs → Nat) (t : List (Op × List Obs)) : Nat := (t.map (fun x => f x.2)).sum

/-- number of steps of `ops`, started in `s`, at which `p state op` holds -/
def countSteps (c : Cfg) (p : St → Op → Bool) : St → List Op → Nat
  | _, [] => 0
  | s, op :: r => (if p s op then 1 else 0) + countSteps c p (step c s op).1 r

/-- **Hit events**: in every state, for every op, the block posts exactly one hit event if the op is a hit it accepts
(counter: block present, enabled, outside the multiple-hit window; accrual: enabled and the step not yet set; sequence:
enabled and the step is the one it waits for) and none otherwise — so over any op sequence the number of hit events
equals the number of accepted hits. -/
theorem hit_event_per_accepted_hit (c : Cfg) (s : St) (ops : List Op) :
    total nHit (run c s ops).2 = countSteps c (acceptedHit c) s ops := by
  induction ops generalizing s with
  | nil => rfl
  | cons op r ih =>
    simp only [run, total, List.map_cons, List.sum_cons, countSteps]
    rw [(step_events c s op).1]
    exact congrArg _ (ih _)

/-- a counter hit while disabled, absent or inside the hit window changes nothing and posts nothing -/
theorem rejected_hit_is_silent (c : Cfg) (s : St) (h : accepted s = false) : step c s .count = (s, []) :=
  count_rejected c s h

/-- **Counter value**: for every counter configuration and every op sequence from the initial state, as long as the
block is present its value equals the ledger kept from the outside — `base + interval·direction·hits` where `hits` is
the number of hit events (= accepted hits, previous theorem) since the last reset (reset / restart op, timeout event,
completion of a `reset_on_complete` block, mode start) and `base` is the start value adjusted by the explicit
add / subtract / jump ops since then. -/
theorem counter_value (c : Cfg) (ops : List Op) (hk : c.kind = .counter)
    (hl : (run c (init c) ops).1.loaded = true) :
    (run c (init c) ops).1.value = (ledgerRun c ⟨c.start, 0⟩ (run c (init c) ops).2).value c := by
  exact ledger_run c hk ops (init c) ⟨c.start, 0⟩ (fun _ => by simp [init, startVal, hk, Ledger.value]) hl

/-- without add / subtract / jump the ledger is literally `start + interval·direction·(accepted hits since the last
reset)`: the base never moves -/
theorem ledger_base_is_start (c : Cfg) (t : List (Op × List Obs)) (l : Ledger) (hb : l.base = c.start)
    (hno : ∀ x ∈ t, ∀ n, x.1 ≠ .add n ∧ x.1 ≠ .sub n ∧ x.1 ≠ .set n) : (ledgerRun c l t).base = c.start := by
  induction t generalizing l with
  | nil => exact hb
  | cons x r ih =>
    exact ih _ (ledgerStep_base c l x.1 x.2 hb (hno x List.mem_cons_self)) fun y hy => hno y (List.mem_cons_of_mem _ hy)

/-- **Completion exactly once, at the moment the goal is reached**: in every state and for every op the completion
event is posted exactly once if this op reaches the goal (`reaches`: an accepted hit / an add, subtract or jump whose
new value meets `count_complete_value` in the counting direction; the accrual hit that sets the last open step; the
sequence hit on the awaited last step) while the block is not already completed, and not at all otherwise — so over any
op sequence the number of completion events equals the number of such steps: never twice for one completion, never late. -/
theorem complete_exactly_once_per_completion (c : Cfg) (s : St) (ops : List Op) :
    total nComplete (run c s ops).2 = countSteps c (fun s op => reaches c s op && !s.completed) s ops := by
  induction ops generalizing s with
  | nil => rfl
  | cons op r ih =>
    simp only [run, total, List.map_cons, List.sum_cons, countSteps]
    rw [(step_events c s op).2]
    exact congrArg _ (ih _)

/-- the single-step form: at most one completion event per op, and exactly when the goal is reached by this op -/
theorem complete_at_the_reaching_step (c : Cfg) (s : St) (op : Op) :
    nComplete (step c s op).2 = (if reaches c s op && !s.completed then 1 else 0) := (step_events c s op).2

/-- **Then resets or disables**: right after a step that completed the block — with `reset_on_complete` the value is
back at the start value, the block is not completed and (unless also disabled) its timeout runs anew; without it the
block stays completed and its timeout is stopped; with `disable_on_complete` it is disabled with no timeout pending,
otherwise its enabled state is unchanged. -/
theorem then_resets_or_disables (c : Cfg) (s : St) (op : Op) (hr : reaches c s op = true) (hc : s.completed = false) :
    PostCompletion c s (step c s op).1 := step_post c s op hr hc

/-- **Accrual, any order**: for an enabled accrual, hits on any list of steps that does not yet cover all steps leave
exactly those steps set and post no completion; the result does not depend on the order of the hits.  (The hit that
sets the last open step then completes it: `complete_at_the_reaching_step`.) -/
theorem accrual_any_order (c : Cfg) (s : St) (ks ks' : List Nat) (hk : c.kind = .accrual) (hl : s.loaded = true)
    (he : s.enabled = true) (hp : ks.Perm ks') (hn : allTrue (marks s.flags ks) = false) :
    (run c s (ks.map Op.hit)).1 = { s with flags := marks s.flags ks } ∧
    (run c s (ks'.map Op.hit)).1 = (run c s (ks.map Op.hit)).1 ∧
    total nComplete (run c s (ks.map Op.hit)).2 = 0 ∧ total nComplete (run c s (ks'.map Op.hit)).2 = 0 := by
  have h1 := accrual_run c s ks hk hl he hn
  have h2 := accrual_run c s ks' hk hl he (by rw [← marks_perm s.flags ks ks' hp]; exact hn)
  refine ⟨h1.1, ?_, h1.2, h2.2⟩
  rw [h1.1, h2.1, marks_perm s.flags ks ks' hp]

/-- **Sequence, strict order**: a hit on any step other than the awaited one changes nothing and posts nothing; over
any list of step hits an enabled sequence advances exactly along the in-order matches (`seqAdv`) and posts no
completion before the last step. -/
theorem sequence_strict_order (c : Cfg) (s : St) (ks : List Nat) (hk : c.kind = .sequence) (hl : s.loaded = true)
    (he : s.enabled = true) (hn : seqAdv s.value ks < c.steps) :
    (∀ k : Nat, (k : Int) ≠ s.value → step c s (.hit k) = (s, [])) ∧
    (run c s (ks.map Op.hit)).1 = { s with value := seqAdv s.value ks } ∧
    total nComplete (run c s (ks.map Op.hit)).2 = 0 :=
  ⟨fun k hv => sequence_wrong_step c s k hk hv, (sequence_run c s ks hk hl he hn).1, (sequence_run c s ks hk hl he hn).2⟩

/-- total of a per-step count over an extended trace -/
def xtotal (f : List Obs → Nat) (t : List (XOp × List Obs)) : Nat := (t.map (fun x => f x.2)).sum

/-- number of steps of `ops`, started in `y`, at which `p system op` holds -/
def xcountSteps (p : Sys → XOp → Bool) : Sys → List XOp → Nat
  | _, [] => 0
  | y, op :: r => (if p y op then 1 else 0) + xcountSteps p (xstep y op).1 r

/-- **Hit events, extended op set**: over any sequence of ops - hits arriving directly or as delayed control calls,
template variables changing, modes stopping and starting for any player, callbacks in any order - the number of hit
events posted equals the number of accepted hits (`acceptedX`: the op runs a hit method now - a delayed one only at
its due instant - and the block is present, enabled and outside its window / the step is open / the awaited one). -/
theorem xhit_event_per_accepted_hit (y : Sys) (ops : List XOp) :
    xtotal nHit (xrun y ops).2 = xcountSteps acceptedX y ops := by
  induction ops generalizing y with
  | nil => rfl
  | cons op r ih =>
    simp only [xrun, xtotal, List.map_cons, List.sum_cons, xcountSteps]
    rw [(xstep_events y op).1]
    exact congrArg _ (ih _)

/-- **Completion exactly once, extended op set**: the number of completion events equals the number of steps that
reach the goal - as the `count_complete_value` template evaluates at that very step - while the block is not
completed; a delayed call counts at the instant it runs, a refused or dropped one never. -/
theorem xcomplete_exactly_once_per_completion (y : Sys) (ops : List XOp) :
    xtotal nComplete (xrun y ops).2 = xcountSteps reachesX y ops := by
  induction ops generalizing y with
  | nil => rfl
  | cons op r ih =>
    simp only [xrun, xtotal, List.map_cons, List.sum_cons, xcountSteps]
    rw [(xstep_events y op).2]
    exact congrArg _ (ih _)

/-- **Counter value, extended op set, with template re-evaluation**: for every counter configuration, machine-wide or
mode-owned, persisted or not, and every op sequence from boot, whenever the block is present its value equals the
ledger kept from outside: `base + interval·direction·hits`, where `hits` counts the hit events since the last reset
(reset / restart - direct or delayed -, timeout, completion with `reset_on_complete`, fresh mode start) and `base` is
what the `starting_count` template evaluated to AT that reset (`setStart` ops are remembered, they do not move the
value), adjusted by add / subtract / jump since; after a `persist_state` restore the base is the value the restore
announces (it is the stored one: `persist_restores`). -/
theorem xcounter_value (c : Cfg) (ps bt : Bool) (ops : List XOp) (hk : c.kind = .counter)
    (hl : (xrun (xinit c ps bt) ops).1.s.loaded = true) :
    (xrun (xinit c ps bt) ops).1.s.value =
      (xledgerRun c ⟨⟨c.start, 0⟩, c.start⟩ (xrun (xinit c ps bt) ops).2).l.value c := by
  have i0 : LedgerInv c (xinit c ps bt) ⟨⟨c.start, 0⟩, c.start⟩ :=
    ⟨hk, rfl, rfl, rfl, rfl, fun h => by
      cases bt <;> simp [xinit, init, unload, startVal, hk, Ledger.value] at h ⊢⟩
  exact (xledger_run c ops _ _ i0).value hl

/-- **The window reopens** (extended op set): after any op sequence from boot a pending hit window has its deadline
not in the past and at most `multiple_hit_window` ticks away (no op can prolong it); the clock cannot pass the
deadline while the window is pending, and the window callback, run at the deadline, opens it - hits are accepted again
by `xhit_event_per_accepted_hit`. -/
theorem window_reopens (c : Cfg) (ps bt : Bool) (ops : List XOp) (d : Nat)
    (hw : (xrun (xinit c ps bt) ops).1.s.windowUntil = some d) :
    let y := (xrun (xinit c ps bt) ops).1
    y.s.now ≤ d ∧ d ≤ y.s.now + y.c.window ∧
    (d = y.s.now → (xstep y (.core .clock)).1 = y ∧ (xstep y (.core .fireW)).1.s.windowUntil = none) := by
  intro y
  have inv : WindowOk y.c y.s := (xrun_inv Timely xstep_timely _ ops (xinit_timely c ps bt)).2
  have b := inv.2 d hw
  have hl : y.s.loaded = true := by
    cases h : y.s.loaded
    · rw [inv.1 h] at hw; exact absurd hw (by simp)
    · rfl
  refine ⟨b.1, b.2, fun hd => ?_⟩
  subst hd
  have wd := window_deadline y.c y.s hl hw
  constructor
  · simp only [xstep]; split
    · rfl
    · rw [wd.1]
  · simp only [xstep]; exact wd.2

/-- **A delayed control call runs at its due instant, once, or never**: (1) from boot on no pending call is ever in
the past; (2) the clock does not move while a call is due; (3) a call that is not due now cannot run; (4) a call that
runs is exactly the block method of its event on the state and templates as they are THEN, and is removed from the
pending calls; (5) when the block's mode stops, nothing stays pending. -/
theorem delayed_call_at_due_instant_once (c : Cfg) (ps bt : Bool) (ops : List XOp) :
    let y := (xrun (xinit c ps bt) ops).1
    (∀ x ∈ y.pending, y.s.now ≤ x.1) ∧
    (dueNow y.s.now y.pending = true → xstep y (.core .clock) = (y, [Obs.refused])) ∧
    (∀ a k, takeDue y.s.now a y.pending = none → xstep y (.fireD a k) = (y, [Obs.refused])) ∧
    (∀ a k rest, takeDue y.s.now a y.pending = some rest →
      xstep y (.fireD a k) = ({ y with s := (step y.c y.s (actOp a k)).1, pending := rest }, (step y.c y.s (actOp a k)).2) ∧
      rest.length + 1 = y.pending.length) ∧
    (y.s.loaded = true → (xstep y .stopMode).1.pending = []) := by
  intro y
  refine ⟨(xrun_inv Timely xstep_timely _ ops (xinit_timely c ps bt)).1, fun h => by simp [xstep, h],
    fun a k h => by simp [xstep, h], fun a k rest h => ?_, fun h => ?_⟩
  · exact ⟨by simp [xstep, h], (takeDue_sub _ _ _ _ h).2⟩
  · simp [xstep, stopMode, h]

/-- **persist_state restores per player**: in every state, when the mode of a persisted block stops and later starts
again for the same player - whatever happened for other players in between is covered by `other_players_untouched` -
the block presents exactly the enabled / completed / value it had, posts one `updated` event and no hit or completion
event, has no hit window and no timeout pending; a completed block is still completed on the next ball. -/
theorem persist_restores (y : Sys) (hp : y.persist = true) (hl : y.s.loaded = true) :
    let y1 := (xstep y .stopMode).1
    lookupSnap y.cur y1.saved = some (snapOf y.s) ∧
    ∀ y2 : Sys, y2.persist = true → y2.s.loaded = false → lookupSnap y.cur y2.saved = some (snapOf y.s) →
      snapOf (xstep y2 (.startMode y.cur)).1.s = snapOf y.s ∧ (xstep y2 (.startMode y.cur)).1.s.loaded = true ∧
      (xstep y2 (.startMode y.cur)).1.s.windowUntil = none ∧ (xstep y2 (.startMode y.cur)).1.s.timeoutDue = none ∧
      (xstep y2 (.startMode y.cur)).2 = [upd (xstep y2 (.startMode y.cur)).1.s] := by
  refine ⟨by simp [xstep, stopMode, hl, hp, lookupSnap], fun y2 h2 hl2 hs => ?_⟩
  simp [xstep, startMode, hl2, h2, hs, snapOf]

/-- **Players are isolated**: within a game (every op except the end of the game, which removes the players
themselves - `new_game_starts_fresh`) no op changes the stored state of a player who is not up. -/
theorem other_players_untouched (y : Sys) (x : XOp) (q : Nat) (hq : q ≠ y.cur) (hg : x ≠ .newGame) :
    lookupSnap q (xstep y x).1.saved = lookupSnap q y.saved := by
  cases hx : xcore y x with
  | some o => rw [(xstep_runs y x o hx).1]
  | none =>
    cases x with
    | newGame => exact absurd rfl hg
    | core o =>
      rcases xcore_core_none y o hx with rfl | rfl | ⟨rfl, hd⟩
      · exact stopMode_saved y q hq
      · exact congrArg _ (startMode_saved y y.cur)
      · simp only [xstep, hd]; rfl
    | stopMode => exact stopMode_saved y q hq
    | startMode p => exact congrArg _ (startMode_saved y p)
    | dpost a d => simp only [xstep]; split <;> rfl
    | fireD a k => simp only [xstep, xcore_fireD_none y a k hx]
    | _ => rfl

/-- **Game end, second game**: after the game ended (block's mode stopped) nobody has a stored state any more, so in
the next game every player - whatever the previous game left - gets a fresh block: start value as the template
evaluates then, not completed, enabled iff `start_enabled`, timeout armed iff enabled; while a mode that merely
stops and starts again within the game (next ball, extra ball: `startMode` for the same player) restores
(`persist_restores`) and does NOT arm the timeout of a restored enabled block (the model follows the code). -/
theorem new_game_starts_fresh (y : Sys) (p : Nat) (hl : y.s.loaded = false) :
    let y1 := (xstep y .newGame).1
    (∀ q, lookupSnap q y1.saved = none) ∧ y1.cur = 0 ∧ y1.s = y.s ∧ y1.pending = y.pending ∧
    (xstep y1 (.startMode p)).1.s = (load y.c y.s).1 ∧ (xstep y1 (.startMode p)).2 = (load y.c y.s).2 ∧
    (load y.c y.s).1.completed = false ∧ (load y.c y.s).1.enabled = y.c.startEnabled ∧
    (load y.c y.s).1.timeoutDue = (if y.c.startEnabled && decide (y.c.timeout ≠ 0) then some (y.s.now + y.c.timeout) else none) := by
  have e : (xstep y .newGame).1 = { y with saved := [], cur := 0 } := by simp [xstep, hl]
  rw [e]
  refine ⟨fun _ => rfl, rfl, rfl, rfl, by simp [xstep, startMode, hl, lookupSnap], by simp [xstep, startMode, hl, lookupSnap],
    ?_⟩
  cases h : y.c.startEnabled <;> simp [load, enable, h]

/-- a restored enabled block has no timeout pending although `logic_block_timeout` is configured (kernel-evaluated
witness of the behaviour described in `persist_restores`; observed on the real device, reported, not a clause of C18) -/
theorem restored_block_timeout_not_rearmed_witness :
    let c : Cfg := { kind := .counter, start := 0, goal := some 9, timeout := 4, startEnabled := true }
    let y := (xrun (xinit c true false) [.startMode 0, .core .count, .stopMode, .startMode 0]).1
    y.s.enabled = true ∧ y.s.value = 1 ∧ y.s.timeoutDue = none := by decide

/-- **advance_random is a hit on an open step**: whatever open step the random choice names, the effect is that of
a hit on that step (so `accrual_any_order` and the completion theorems cover it); a step that is already set is never
hit again. -/
theorem advance_random_hits_an_open_step (c : Cfg) (s : St) (k : Nat) (hk : c.kind = .accrual) (hl : s.loaded = true) :
    (getFlag s.flags k = false → step c s (.advr k) = step c s (.hit k)) ∧
    (getFlag s.flags k = true → step c s (.advr k) = (s, [])) := by
  constructor <;> intro hg <;> simp [step, stepLoaded, hl, hk, hg]

/-! ## the hand model of a counter is what the source says (translator tie) -/

/-- a counter reached from boot by any op sequence never carries accrual flags (the side condition of the tie) -/
theorem counter_flags_stay_empty (c : Cfg) (ops : List Op) (hk : c.kind = .counter) : (run c (init c) ops).1.flags = [] :=
  run_inv c (·.flags = []) (fun s op => counter_step_flags c s op hk) _ ops (by simp [init, startFlags, hk])

/-- **The model's counter methods are the source's** (`mpf/devices/logic_blocks.py` as it is now, regenerated into
`Gen/LogicBlockOps.lean` on every check): in every state of a present counter, running the *generated* program of
`Counter.count`, `LogicBlock.enable / disable / reset / restart / complete`, `Counter.check_complete`,
`LogicBlock._logic_block_timeout` (at its deadline, the delay manager having removed the delay) and
`Counter.stop_ignoring_hits` (at the window deadline) in the deep embedding - attribute and player-state store,
configuration and templates as data, delays and event posts as a log of effects with their hand-given meaning `applyEff` -
yields exactly the state and exactly the list of posted events that the hand model's `step` computes for the corresponding
op; no logged action is without meaning, no `ignore_hits` is left without its closing delay, nothing raises.  Every theorem
above about `step` / `run` therefore speaks about these methods of the source. -/
theorem counter_methods_refine_source (c : Cfg) (s : St) (hk : c.kind = .counter) (hf : s.flags = []) (hl : s.loaded = true) :
    genRun c s Gen.LogicBlockOps.count [] = (step c s .count, false, false, some .none) ∧
    genRun c s Gen.LogicBlockOps.enable [] = (step c s .enable, false, false, some .none) ∧
    genRun c s Gen.LogicBlockOps.disable [] = (step c s .disable, false, false, some .none) ∧
    genRun c s Gen.LogicBlockOps.reset [] = (step c s .reset, false, false, some .none) ∧
    genRun c s Gen.LogicBlockOps.restart [] = (step c s .restart, false, false, some .none) ∧
    genRun c s Gen.LogicBlockOps.complete [] = (complete c s, false, false, some .none) ∧
    genRun c s Gen.LogicBlockOps.check_complete [] = ((s, []), false, false, some (.bool (goalReached c s.value))) ∧
    (s.timeoutDue = some s.now →
      genRun c { s with timeoutDue := none } Gen.LogicBlockOps.p_logic_block_timeout [] = (step c s .fireT, false, false, some .none)) ∧
    (s.windowUntil = some s.now →
      genRun c s Gen.LogicBlockOps.stop_ignoring_hits [] = (step c s .fireW, false, false, some .none)) := by
  have hs : ∀ o, step c s o = stepLoaded c s o := fun o => step_loaded c s o hl
  refine ⟨?_, ?_, ?_, ?_, ?_, complete_gen c s hk hf, check_complete_gen c s, fun hd => ?_, fun hd => ?_⟩
  · rw [hs]; simp only [stepLoaded, hk]; exact count_gen c s hk hf
  · rw [hs]; exact enable_gen c s
  · rw [hs]; exact disable_gen c s
  · rw [hs]; exact reset_gen c s hk hf
  · rw [hs]; exact restart_gen c s hk hf
  · rw [hs]; exact timeout_gen c s hk hf hd
  · rw [hs]; exact stop_ignoring_gen c s hd

/-- hence, over every op sequence from boot: the `count` of the source, run in the state the sequence leads to, is the
model's `count` step there (the flags side condition is discharged by `counter_flags_stay_empty`) - and in particular,
in the source, a hit on a disabled counter or inside the window writes nothing, posts nothing and arms nothing -/
theorem reachable_count_refines_source (c : Cfg) (ops : List Op) (hk : c.kind = .counter)
    (hl : (run c (init c) ops).1.loaded = true) :
    genRun c (run c (init c) ops).1 Gen.LogicBlockOps.count [] = (step c (run c (init c) ops).1 .count, false, false, some .none) ∧
    (accepted (run c (init c) ops).1 = false →
      genRun c (run c (init c) ops).1 Gen.LogicBlockOps.count [] = (((run c (init c) ops).1, []), false, false, some .none)) := by
  have h := (counter_methods_refine_source c _ hk (counter_flags_stay_empty c ops hk) hl).1
  exact ⟨h, fun ha => by rw [h, count_rejected c _ ha]⟩

/-! ## state machine devices (not named by the property's text: model facts backing the comparison run) -/

/-- **A transition whose source does not match is ignored** (at dispatch start): an event for which no transition has the
current state among its sources changes nothing and posts nothing - in every state, also while the owning mode is not
running. -/
theorem sm_unmatched_event_ignored (c : StateMachine.Cfg) (s : StateMachine.St) (k : Nat)
    (hn : ∀ i, s.cur = some i → ∀ t ∈ c.trans, i ∈ t.src → k ∉ t.events) : StateMachine.step c s (.ev k) = (s, []) := by
  cases hc : s.cur with
  | none => simp [StateMachine.step, hc]
  | some i =>
    simp only [StateMachine.step, hc, StateMachine.no_match i k c.trans 0 (hn i hc), StateMachine.takeAll]
    rw [← hc]

def smTwo : StateMachine.Cfg :=
  { nStates := 3, onEv := [true, true, true], offEv := [true, true, true], trans := [⟨[0], 1, [0], true⟩, ⟨[0], 2, [0], true⟩] }
def smChain : StateMachine.Cfg :=
  { nStates := 3, onEv := [true, true, true], offEv := [true, true, true], trans := [⟨[0], 1, [0], true⟩, ⟨[1], 2, [0], true⟩] }

/-- observed on the real device and reproduced by the model (kernel-evaluated): with two transitions on one event out of
one state, both handlers run - the second one out of a state that is NOT among its sources (st0 -e0-> st1, then the stale
handler st0 -e0-> st2 fires from st1), while a chain st0 -e0-> st1 -e0-> st2 advances only one state per event. -/
theorem sm_stale_handler_witness :
    (StateMachine.step smTwo (StateMachine.init smTwo true) (.ev 0)).1.cur = some 2 ∧
    (StateMachine.step smTwo (StateMachine.init smTwo true) (.ev 0)).2 =
      [.stopped 0, .transitioning 0, .started 1, .stopped 1, .transitioning 1, .started 2] ∧
    (StateMachine.step smChain (StateMachine.init smChain true) (.ev 0)).1.cur = some 1 := by decide

/-! ## the hypotheses are satisfiable on concrete, non-trivial runs (kernel evaluation) -/

def demo : Cfg := { kind := .counter, start := 2, interval := 1, goal := some 4, window := 2, timeout := 8 }

/-- enable, hit, hit inside the window (ignored), two ticks, window callback, hit (completes: reset + disable) -/
example : (run demo (init demo) [.enable, .count, .count, .clock, .clock, .fireW, .count]).1.value = 2 ∧
    total nHit (run demo (init demo) [.enable, .count, .count, .clock, .clock, .fireW, .count]).2 = 2 ∧
    total nComplete (run demo (init demo) [.enable, .count, .count, .clock, .clock, .fireW, .count]).2 = 1 ∧
    (run demo (init demo) [.enable, .count, .count, .clock, .clock, .fireW, .count]).1.enabled = false := by decide

example : (run demo (init demo) [.enable, .count]).1.windowUntil = some 2 := by decide

/-- the clock waits at the window deadline; a third tick is refused until the window callback has run -/
example : (run demo (init demo) [.enable, .count, .clock, .clock, .clock]).1.now = 2 := by decide

/-- extended ops: a delayed count lands inside the window and is ignored; a delayed one after the window counts;
the goal template is lowered from 9 to 5 and the next hit completes (reset to the start value 2) -/
def xdemo : List XOp :=
  [.setGoal (some 9), .core .enable, .core .count, .dpost .count 1, .dpost .count 3, .core .clock, .fireD .count 0, .core .clock,
   .core .fireW, .core .clock, .fireD .count 0, .setGoal (some 5), .core .clock, .core .clock, .core .fireW, .core .count]
example : xtotal nHit (xrun (xinit demo false true) xdemo).2 = 3 ∧
    xcountSteps acceptedX (xinit demo false true) xdemo = 3 ∧
    xtotal nComplete (xrun (xinit demo false true) xdemo).2 = 1 ∧ xcountSteps reachesX (xinit demo false true) xdemo = 1 ∧
    (xrun (xinit demo false true) xdemo).1.s.value = 2 ∧ (xrun (xinit demo false true) xdemo).1.s.loaded = true := by decide
example : (xrun (xinit demo false true) [.core .enable, .dpost .count 2, .core .clock, .core .clock, .core .clock]).1.s.now = 2 ∧
    dueNow 2 (xrun (xinit demo false true) [.core .enable, .dpost .count 2, .core .clock, .core .clock]).1.pending = true := by
  decide

/-- persist_state, two players: player 0 counts to 3, player 1 gets a fresh block, player 0 gets 3 back -/
def pdemo : Cfg := { kind := .counter, start := 2, goal := some 9, startEnabled := true }
example : (xrun (xinit pdemo true false) [.startMode 0, .core .count, .stopMode, .startMode 1, .core .count, .core .count,
      .stopMode, .startMode 0]).1.s.value = 3 ∧
    (xrun (xinit pdemo true false) [.startMode 0, .core .count, .stopMode, .startMode 1]).1.s.value = 2 ∧
    (xrun (xinit pdemo true false) [.startMode 0, .core .count, .stopMode, .startMode 1]).1.persist = true := by decide

/-- the hypotheses of the tie hold on the demo counter after a non-trivial run -/
example : demo.kind = .counter ∧ (run demo (init demo) [.enable, .count, .clock, .clock, .fireW]).1.flags = [] ∧
    (run demo (init demo) [.enable, .count, .clock, .clock, .fireW]).1.loaded = true ∧
    accepted (run demo (init demo) [.enable, .count, .clock]).1 = false := by decide

def demoAcc : Cfg := { kind := .accrual, steps := 3, startEnabled := true }
example : allTrue (marks (init demoAcc).flags [2, 0]) = false ∧ (init demoAcc).enabled = true := by decide
example : total nComplete (run demoAcc (init demoAcc) [.hit 2, .hit 0, .hit 2, .hit 1]).2 = 1 := by decide
example : total nComplete (run demoAcc (init demoAcc) [.advr 2, .advr 0, .advr 2, .advr 1]).2 = 1 ∧
    getFlag (run demoAcc (init demoAcc) [.advr 2]).1.flags 0 = false := by decide

def demoSeq : Cfg := { kind := .sequence, steps := 3, startEnabled := true }
example : seqAdv (init demoSeq).value [1, 0, 0, 2, 1] = 2 := by decide
example : total nComplete (run demoSeq (init demoSeq) [.hit 1, .hit 0, .hit 0, .hit 2, .hit 1, .hit 2]).2 = 1 := by decide

end MpfVerif.C18
