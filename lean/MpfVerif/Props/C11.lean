import MpfVerif.Lemmas.Player
/-!
# C11 — player state is isolated per player and restored on their next turn

Model: `Model/Player.lean` (hand-written; tied to `mpf/core/player.py`, `mpf/devices/logic_blocks.py` and the game
mode by the correspondence run).  `Inv s`: the game mode's devices point nowhere or into the current player's
dictionary.  It holds initially and is preserved by every request (`inv_step`).
-/
namespace MpfVerif.C11
open MpfVerif.Player

/-- the pointer invariant `Inv` holds after every history from power-up, so `frame` / `frame_run` apply to every
reachable state. -/
theorem pointer_invariant (c : Cfg) (ops : List Op) : Inv (run c {} ops) :=
  run_invariant c (inv_step c) ops {} (inv_of_nil rfl rfl)

/-- **a start request binds to the current player or is refused**, at any position of the game: after `modeStart` the
pointer is unchanged (no game, or the mode already runs) or it points at the player who is up *now* — never at the
player of an earlier turn; and no other player's dictionary is touched by it. -/
theorem mode_start_binds_current (c : Cfg) (s : St) :
    ((step c s .modeStart).1 = s ∨ (step c s .modeStart).1.dev = some s.cur) ∧
    (step c s .modeStart).1.cur = s.cur ∧
    ∀ q, q ≠ s.cur → (step c s .modeStart).1.players[q]? = s.players[q]? := by
  rcases modeStart_cases c s with e | e <;> rw [e]
  · exact ⟨.inl rfl, rfl, fun _ _ => rfl⟩
  · exact ⟨.inr rfl, rfl, fun q hq => by simp [modeStart, Ne.symm hq]⟩

/-- when a turn ends the pointer is dropped or handed to the player who is up next — also when a start request arrived
after the ball had ended but before the turn ended (`drainPre`): no mode keeps running bound to the previous player. -/
theorem turn_end_rebinds (c : Cfg) (s : St) (h : Inv s) (op : Op) (_hop : op = .drain ∨ op = .drainPre) :
    (step c s op).1.dev = none ∨ (step c s op).1.dev = some (step c s op).1.cur :=
  (inv_step c s op h).1

/-- **frame**: any request — variable set/add, any control event of any device (counter, accrual and sequence with their
list-valued / integer progress, shots, flags, achievements, timer start/stop/pause/add/subtract/jump/reset/restart),
shot-group rotation, the passing of any amount of time (running timers tick, timed pauses end), machine-variable
set/add, add player, mode stop/start, ball drain with or without extra ball — leaves the whole dictionary (variables
*and* stored device state) of every player who is not up before or after it unchanged.  The only request that is meant
to write to somebody else, a `variable_player` entry with an explicit `player:`, is excluded for exactly that player (`h3`). -/
theorem frame (c : Cfg) (s : St) (op : Op) (h : Inv s) (q : Nat) (hq : q < s.players.length)
    (h1 : q ≠ s.cur) (h2 : q ≠ (step c s op).1.cur) (hg : (step c s op).1.players ≠ [])
    (h3 : explicitTarget op ≠ some q) :
    (step c s op).1.players[q]? = s.players[q]? := by
  have hc : s.cur ≠ q := Ne.symm h1
  by_cases hl : op.local = true
  · obtain ⟨i, hi, w⟩ := step_local c s hl
    refine w.other ?_
    rcases hi with e | hd | ht
    · exact e ▸ hc
    · exact dev_eq_cur h hd ▸ hc
    · exact fun e => h3 (e ▸ ht)
  cases op with
  | startGame =>
    simp only [step]
    split
    · rfl
    · next hp =>
      rw [Decidable.of_not_not hp] at hq
      exact absurd hq (Nat.not_lt_zero q)
  | addPlayer =>
    simp only [step]
    split
    · rfl
    · exact List.getElem?_append_left hq
  | drain =>
    rcases drain_cases c s with ⟨-, e⟩ | ⟨-, e⟩
    · rw [e]
    · rw [e] at h2 hg ⊢
      exact frame_drainStep c s q h2 hg
  | endGame => exact absurd rfl hg
  | modeStop | modeStopHold =>
    simp only [step]
    split <;> rfl
  | release =>
    rcases release_cases c s with e | e | e
    · rw [e]
    · rw [e]
    · rw [e] at h2 hg ⊢
      exact frame_drainStep c _ q h2 hg
  | modeStart =>
    rcases modeStart_cases c s with e | e
    · rw [e]
    · rw [e]
      simp [modeStart, hc]
  | drainPre =>
    rcases drainPre_cases c s with ⟨-, e⟩ | ⟨-, e | ⟨v, e⟩ | e | ⟨i, v, -, -, e⟩⟩
    · rw [e]
    · rw [e]
    · rw [e]
      simp [modeStart, hc]
    · rw [e] at hg
      exact absurd rfl hg
    · rw [e, handTo_cur] at h2
      rw [e]
      simp [modeStart, Ne.symm h2, hc]
  | _ => exact absurd rfl hl

/-- **frame over histories**: whatever happens while player `q` is never up (other players' turns, their extra
balls, their scoring and progress, time passing with their timers running or paused, players joining), `q`'s
dictionary at the end is exactly what it was. -/
theorem frame_run (c : Cfg) (q : Nat) (ops : List Op) (s : St) (h : Inv s) (hq : q < s.players.length)
    (hquiet : quiet c q s ops) : (run c s ops).players[q]? = s.players[q]? := by
  induction ops generalizing s with
  | nil => rfl
  | cons op rest ih =>
    obtain ⟨h1, h2, hg, h3, hr⟩ := hquiet
    have e := frame c s op h q hq h1 h2 hg h3
    obtain ⟨hq', -⟩ := List.getElem?_eq_some_iff.mp (e.trans (List.getElem?_eq_getElem hq))
    rw [run, ih (step c s op).1 (inv_step c s op h) hq' hr, e]

/-- the ball end proper (`drainStep`: the game mode is not in a held stop, or the hold has just been released): each
device presents `load` of what the player now up has stored, or its fresh state -/
theorem restore_drainStep (c : Cfg) (ha : c.autoStart = true) (hk : KeysOK c) (s : St) (h : Inv s) (hne : s.players ≠ [])
    (hg : (drainStep c s).1.players ≠ []) (d : Dev) (hd : d ∈ c.devs) :
    view (drainStep c s).1 d = some (loaded d (varsOf s (drainStep c s).1.cur)) := by
  rcases drainStep_cases c s with ⟨hp, -⟩ | e | ⟨i, k, v, -, hi, hkey, e⟩
  · exact absurd hp hne
  · rw [e] at hg
    exact absurd rfl hg
  · have hdk : d.key ≠ k := by
      rcases hkey with e | e <;> rw [e]
      · exact (hk.2 d hd).1
      · exact (hk.2 d hd).2
    have hi := hi (h.2 hne)
    rw [e, handTo_cur]
    simp only [handTo, ballStart, ha, if_true]
    rw [view_modeStart c _ hk.1 (by simpa using hi) hd, setOn_fst]
    simp only [varsOf, getD_modify_self hi, loaded, get_put_other _ _ _ _ hdk]

/-- **restore**, for every persisting device at once: when a ball ends (the game mode not being in a held stop) and the
next ball starts (next player, next ball of the same player, or an extra ball), each device of the game mode presents
`load` of exactly the state stored under its key in the dictionary of the player who is now up — which by `frame_run` is
what it presented at the end of that player's previous ball — and the fresh state if that player never had it.  (`load`
is the identity for logic blocks, shot/profile states and persisted enable flags; the documented started→stopped rule
for achievements; the start value for timers.) -/
theorem restore (c : Cfg) (ha : c.autoStart = true) (hk : KeysOK c) (s : St) (h : Inv s) (hne : s.players ≠ [])
    (hh : s.hold = false) (hg : (step c s .drain).1.players ≠ []) (d : Dev) (hd : d ∈ c.devs) :
    view (step c s .drain).1 d = some (loaded d (varsOf s (step c s .drain).1.cur)) := by
  have e : step c s .drain = drainStep c s := by simp [step, hh]
  rw [e] at hg ⊢
  exact restore_drainStep c ha hk s h hne hg d hd

/-- **a held stop keeps the turn**: while the game mode is stopping with its `mode_<n>_stopping` queue event held (the
stop was requested before the ball drained), a ball end changes nothing but the fact that it is waiting: no player's
dictionary, not the player who is up, not the binding of the devices — the game does not move on to the next player
while the old mode is still active; and (over all histories, by `pointer_invariant`) the devices of a mode in a held
stop still point at the player who is up.  Stop and start requests meanwhile do nothing. -/
theorem held_stop_keeps_turn (c : Cfg) (s : St) (hh : s.hold = true) :
    (∀ op, op = .drain ∨ op = .drainPre →
      (step c s op).1.players = s.players ∧ (step c s op).1.cur = s.cur ∧ (step c s op).1.dev = s.dev ∧
      (step c s op).1.hold = true ∧ (step c s op).1.ending = true ∧ (step c s op).2 = []) ∧
    step c s .modeStop = (s, []) ∧ (s.dev ≠ none → step c s .modeStart = (s, []) ∨ s.players = []) := by
  refine ⟨fun op hop => ?_, by simp [step, hh], fun hd => .inl (modeStart_refused c s hd)⟩
  rcases hop with e | e <;> subst e <;> simp [step, hh]

/-- the hold invariant over all histories from power-up: a held stop belongs to a running mode (so with
`pointer_invariant`: its devices point at the player who is up), and a ball end only ever waits behind a held stop. -/
theorem hold_invariant (c : Cfg) (ops : List Op) :
    ((run c {} ops).hold = true → (run c {} ops).dev = some (run c {} ops).cur) ∧
    ((run c {} ops).ending = true → (run c {} ops).hold = true) := by
  have hh := run_invariant c (holdInv_step c) ops {} (holdInv_of_off rfl rfl)
  refine ⟨fun h => ?_, hh.2⟩
  rcases (pointer_invariant c ops).1 with e | e
  · exact absurd e (hh.1 h)
  · exact e

/-- **the release finishes the stop, then the ball ends**: releasing the held queue event stops the mode (nothing points
into any player any more); a ball end that was waiting behind it then takes place exactly as a ball end of a stopped
mode would — in particular (`restore_after_release`) the next ball's devices are bound to and loaded from the player
who is then up, never the previous one. -/
theorem release_finishes_stop (c : Cfg) (s : St) (hh : s.hold = true) :
    (s.ending = false → (step c s .release).1.dev = none ∧ (step c s .release).1.players = s.players ∧
       (step c s .release).1.cur = s.cur ∧ (step c s .release).1.hold = false ∧ (step c s .release).2 = []) ∧
    (s.ending = true → step c s .release = step c { s with hold := false, ending := false, dev := none } .drain) := by
  refine ⟨fun he => by simp [step, hh, he], fun he => by simp [step, hh, he]⟩

/-- **restore after a released hold**: when the ball end that waited behind a held stop takes place, each device of the
game mode presents `load` of what the player who is now up has stored under its key (or its fresh state) — the previous
player's state is not carried along although their mode was still active when the ball drained. -/
theorem restore_after_release (c : Cfg) (ha : c.autoStart = true) (hk : KeysOK c) (s : St) (h : Inv s)
    (hne : s.players ≠ []) (hh : s.hold = true) (he : s.ending = true)
    (hg : (step c s .release).1.players ≠ []) (d : Dev) (hd : d ∈ c.devs) :
    view (step c s .release).1 d = some (loaded d (varsOf s (step c s .release).1.cur)) := by
  have e : step c s .release = drainStep c { s with hold := false, ending := false, dev := none } := by
    simp [step, hh, he]
  rw [e] at hg ⊢
  exact restore_drainStep c ha hk { s with hold := false, ending := false, dev := none } ⟨Or.inl rfl, h.2⟩ hne hg d hd

/-- **fresh game**: a game started on an idle machine does not depend on anything an earlier game left behind, and
an accepted player joins with exactly the configured initial dictionary (index, number, the `player_vars` section,
score 0) while everybody else's dictionary stays as it is; and every device whose key is not among those variables
starts that player from its fresh state (with `restore`: that is what it presents at the player's first ball). -/
theorem fresh_game (c : Cfg) (s s' : St) (h : s.players = []) (h' : s'.players = []) :
    ((step c s .startGame).1.players = (step c s' .startGame).1.players ∧
     (step c s .startGame).1.cur = (step c s' .startGame).1.cur ∧
     (step c s .startGame).2 = (step c s' .startGame).2) ∧
    (∀ t : St, (step c t .addPlayer).1.players = t.players ∨
               (step c t .addPlayer).1.players = t.players ++ [newVars c t.players.length]) ∧
    (∀ i k v, (k, v) ∈ c.initVars → (k, v) ∈ newVars c i) ∧
    (∀ (d : Dev) i, get (newVars c i) d.key = none → loaded d (newVars c i) = d.fresh) := by
  refine ⟨?_, fun t => ?_, fun i k v hm => List.mem_append_left _ (List.mem_append_right _ hm),
    fun _ _ => loaded_of_none⟩
  · simp only [step, h, h', turnStart_eq, handTo_fst]
    simp [handTo, ballStartEvs, modeStartEvs, setOn, varsOf]
  · simp only [step]
    split
    · exact Or.inl rfl
    · exact Or.inr rfl

/-- **event exactness**: assigning `v` to variable `k` of player number `num` stores `v`, touches no other variable,
and posts at most one `player_<k>` event; the event is posted iff the value changed or the variable is new (and the
value is an int or a string) and carries the new value, the previous value (0 for a new variable), the change
(difference for numbers, inequality otherwise) and the owner's number. -/
theorem var_event_exact (m : Vars) (num : Nat) (k : String) (v : Val) :
    get (setVar m num k v).1 k = some v ∧
    (∀ k2, k2 ≠ k → get (setVar m num k v).1 k2 = get m k2) ∧
    ((setVar m num k v).2 = [] ∨
     (setVar m num k v).2 = [⟨k, v, (get m k).getD (.int 0), changeOf v ((get m k).getD (.int 0)), num⟩]) ∧
    ((setVar m num k v).2 ≠ [] ↔
      ((truthy (changeOf v ((get m k).getD (.int 0))) = true ∨ get m k = none) ∧ isScalar v = true)) ∧
    (∀ a b : Int, v = .int a → get m k = some (.int b) → changeOf v ((get m k).getD (.int 0)) = .int (a - b)) := by
  refine ⟨get_put_same m k v, fun k2 h => get_put_other m k k2 v h, ?_, ?_, ?_⟩
  · unfold setVar
    simp only []
    split
    · exact Or.inr rfl
    · exact Or.inl rfl
  · simp [setVar]
  · intro a b hv hb
    subst hv
    simp [hb, changeOf]

/-- **restore when the mode is started by request** (a game mode without `ball_started` among its start events, or one
restarted in the middle of a ball): every device presents `load` of exactly what the player who is up has stored under
its key — whatever happened in between, and however long ago that was stored — or its fresh state. -/
theorem restore_on_mode_start (c : Cfg) (hk : KeysOK c) (s : St) (hne : s.players ≠ []) (hoff : s.dev = none)
    (hcur : s.cur < s.players.length) (d : Dev) (hd : d ∈ c.devs) :
    view (step c s .modeStart).1 d = some (loaded d (varsOf s s.cur)) := by
  simp only [step, if_neg hne, hoff]
  exact view_modeStart c s hk.1 hcur hd

/-- **time**: while no game mode runs (between a ball's end and the next start of the mode, after a stop request, after
the game) the passing of any amount of time changes nothing at all — no timer of a stopped mode ticks or resumes from a
pause; while it runs, time changes the dictionary of the player who is up and nobody else's, and neither the pointer
nor the turn, and every `player_<mode>_<timer>_tick` event a tick posts carries the number of the player who is up. -/
theorem time_passing (c : Cfg) (s : St) (n : Nat) :
    (s.dev = none → step c s (.wait n) = (s, [])) ∧
    (Inv s → ∀ q, q ≠ s.cur → (step c s (.wait n)).1.players[q]? = s.players[q]?) ∧
    (step c s (.wait n)).1.cur = s.cur ∧ (step c s (.wait n)).1.dev = s.dev ∧
    (Inv s → ∀ e ∈ (step c s (.wait n)).2, e.num = s.cur + 1) := by
  cases hd : s.dev with
  | none => simp [step, hd]
  | some p =>
    simp only [step, hd, modify_eq]
    exact ⟨nofun, fun h q hq => List.getElem?_modify_ne _ _ (dev_eq_cur h hd ▸ Ne.symm hq), trivial, trivial,
      fun h => dev_eq_cur h hd ▸ elapseEvs_num⟩

/-- **device-variable events belong to the player who is up**: every `player_<var>` event posted because a device wrote
its state (a timer's tick variable: at load, on add / subtract / jump / reset, on every tick) or because a ball ended and
the next one started (`ball`, `extra_balls`, the devices' loads) carries the number of the player who is up when the
request has been handled — for time passing, control events and start requests that is the player who was up before. -/
theorem device_events_owner (c : Cfg) (s : St) (h : Inv s) (op : Op)
    (hop : (∃ n, op = .wait n) ∨ (∃ d code, op = .dev d code) ∨ op = .modeStart ∨ op = .drain ∨ op = .release) :
    ∀ e ∈ (step c s op).2, e.num = (step c s op).1.cur + 1 := by
  rcases hop with ⟨n, e⟩ | ⟨d, code, e⟩ | e | e | e <;> subst e
  · obtain ⟨-, -, hcur, -, hnum⟩ := time_passing c s n
    rw [hcur]
    exact hnum h
  · simp only [step]
    split
    · exact List.forall_mem_nil _
    · next p hp =>
      rw [dev_eq_cur h hp]
      split
      · exact List.forall_mem_nil _
      · split
        · exact List.forall_mem_nil _
        · exact devEv_num
  · rcases modeStart_cases c s with e | e <;> rw [e]
    · exact List.forall_mem_nil _
    · exact loadEvs_num
  · rcases drain_cases c s with ⟨-, e⟩ | ⟨-, e⟩ <;> rw [e]
    · exact List.forall_mem_nil _
    · exact drainStep_num c s
  · rcases release_cases c s with e | e | e <;> rw [e]
    · exact List.forall_mem_nil _
    · exact List.forall_mem_nil _
    · exact drainStep_num c _

/-- **a stopped mode is inert**: after a stop request (not held), after the release of a held stop, after the game has
ended, and after a ball has drained when the mode does not start with the ball, nothing points into any player any
more, so (by `time_passing`) no amount of time changes anybody's variables — in particular a timer that was in a timed
pause when its mode stopped cannot come back to life bound to the previous player. -/
theorem stopped_mode_is_inert (c : Cfg) (s : St) (n : Nat) :
    (∀ op, (op = .modeStop ∧ s.hold = false) ∨ op = .endGame ∨ (op = .release ∧ s.hold = true ∧ s.ending = false) ∨
        (op = .drain ∧ c.autoStart = false ∧ s.players ≠ [] ∧ s.hold = false) →
      (step c s op).1.dev = none ∧ step c (step c s op).1 (.wait n) = ((step c s op).1, [])) := by
  intro op hop
  have hd : (step c s op).1.dev = none := by
    rcases hop with ⟨e, hh⟩ | e | ⟨e, hh, he⟩ | ⟨e, ha, hne, hh⟩ <;> subst e
    · simp [step, hh]
    · rfl
    · simp [step, hh, he]
    · have e : step c s .drain = drainStep c s := by simp [step, hh]
      rw [e]
      rcases drainStep_cases c s with ⟨hp, -⟩ | e | ⟨i, k, v, -, -, -, e⟩
      · exact absurd hp hne
      · rw [e]
      · simp [e, ha]
  exact ⟨hd, (time_passing c _ n).1 hd⟩

/-- **explicit target**: a `variable_player` entry that names player `p+1` (who exists) writes to exactly that player:
the stored value, the single event (with *that* player's number, previous value and change) are those of an assignment
in `p`'s dictionary, and every other player — including the one who is up — keeps their dictionary. -/
theorem explicit_target_exact (c : Cfg) (s : St) (p : Nat) (k : String) (v : Val) (hp : p < s.players.length) :
    (step c s (.setP p k v)).2 = (setVar (varsOf s p) (p + 1) k v).2 ∧
    (step c s (.setP p k v)).1.players[p]? = some (setVar (varsOf s p) (p + 1) k v).1 ∧
    ∀ q, q ≠ p → (step c s (.setP p k v)).1.players[q]? = s.players[q]? := by
  have hne : s.players ≠ [] := by
    intro e
    simp [e] at hp
  have ht : targetOf s p = p := by simp [targetOf, hp]
  simp only [step, if_neg hne, ht]
  refine ⟨rfl, ?_, fun q hq => ?_⟩
  · rw [setOn_fst]
    simp [List.getElem?_eq_getElem hp, varsOf, setVar]
  · rw [setOn_fst]
    exact List.getElem?_modify_ne _ _ (Ne.symm hq)

/-- **machine scope**: `set_machine` / `add_machine` entries change no player's dictionary and post no player event;
and no other request changes a machine variable. -/
theorem machine_scope (c : Cfg) (s : St) (k : String) (v : Val) (d : Int) :
    (step c s (.setMachine k v)).1.players = s.players ∧ (step c s (.setMachine k v)).2 = [] ∧
    (step c s (.addMachine k d)).1.players = s.players ∧ (step c s (.addMachine k d)).2 = [] ∧
    (∀ op, (∀ k v, op ≠ .setMachine k v) → (∀ k d, op ≠ .addMachine k d) → (step c s op).1.machine = s.machine) := by
  refine ⟨?_, ?_, ?_, ?_, ?_⟩
  · simp only [step]
    split <;> rfl
  · simp only [step]
    split <;> rfl
  · simp only [step]
    split
    · rfl
    · split <;> rfl
  · simp only [step]
    split
    · rfl
    · split <;> rfl
  · intro op h1 h2
    cases op with
    | setMachine k v => exact absurd rfl (h1 k v)
    | addMachine k d => exact absurd rfl (h2 k d)
    | startGame =>
      simp only [step]
      split <;> simp [turnStart_eq]
    | addPlayer | set | setP | modeStop | modeStopHold | wait | swap =>
      simp only [step]
      split <;> rfl
    | add | addP =>
      simp only [step]
      split
      · rfl
      · split <;> rfl
    | dev =>
      simp only [step]
      split
      · rfl
      · split
        · rfl
        · split <;> rfl
    | drain => rcases drain_cases c s with ⟨-, e⟩ | ⟨-, e⟩ <;> rw [e] <;> simp
    | endGame => rfl
    | release => rcases release_cases c s with e | e | e <;> rw [e] <;> simp
    | modeStart => rcases modeStart_cases c s with e | e <;> rw [e] <;> rfl
    | drainPre =>
      rcases drainPre_cases c s with ⟨-, e⟩ | ⟨-, e | ⟨v, e⟩ | e | ⟨i, v, -, -, e⟩⟩ <;> rw [e]
      all_goals simp [modeStart]

/-- the timer of the correspondence run (`timerDev`, the rules of `mpf/devices/timer.py`): stopped, or paused until it is
started again, with no resume pending, it keeps its ticks however much time passes; and whatever its configuration, a
load gives the start value (a timer does not carry ticks over to the player's next ball — its variable does, until the
mode starts again). -/
theorem stopped_timer_keeps_ticks (t : TimerCfg) (key : String) (l : Loc) (v : Int) (hr : l.run = false) (hp : l.pause = 0) :
    (timerDev key t).tick l (.int v) = (l, .int v) ∧ ∀ x, (timerDev key t).load x = .int t.start := by
  refine ⟨?_, fun _ => rfl⟩
  show tmTick t l (.int v) = (l, .int v)
  simp [tmTick, hr, hp]

/-- the hypotheses are satisfiable and the statements bite: two players, a shot (3 states) and an achievement-like
device whose `load` turns 1 into 2; player 1 advances the shot twice and scores, player 2 advances it once; when
player 1 is up again the shot shows 2, the other device was transformed by `load`, player 2's dictionary still holds 1 -/
example :
    let shot : Dev := plainDev "shot_sh1" (.int 0) id fun _ v => match v with | .int s => .int (s + 1) | x => x
    let ach : Dev := plainDev "ach" (.int 1) (fun v => if v = .int 1 then .int 2 else v) fun _ v => v
    let c : Cfg := { initVars := [("pa", .int 5)], ballsPerGame := 2, devs := [shot, ach] }
    let s := run c {} [.startGame, .addPlayer, .dev 0 0, .dev 0 0, .add "score" 100, .drain, .dev 0 0, .drain]
    Inv s ∧ s.cur = 0 ∧ view s shot = some (.int 2) ∧ view s ach = some (.int 2) ∧
    get (varsOf s 1) "shot_sh1" = some (.int 1) ∧ get (varsOf s 1) "ach" = some (.int 1) ∧
    get (varsOf s 0) "score" = some (.int 100) ∧ get (varsOf s 1) "score" = some (.int 0) := by decide +kernel

/-- list-valued progress, timers and time: a game mode that is started by request holds an accrual (3 steps) and a
timer (running from the start, a tick every 4 units, a timed pause of 8 units).  Player 1 lets it tick twice, pauses it,
collects step 0 and drains inside the pause window; 20 units pass and player 1 is given 50 points by an explicitly
targeted entry in player 2's turn — player 1's ticks stay 2 and the accrual list stays [1,0,0] (nothing resumes);
player 2 starts the mode, collects step 1 and gets one tick; back at player 1 the accrual shows [1,0,0] again, the timer
starts from its start value, and player 2's dictionary holds [0,1,0] and 1 tick. -/
example :
    let acc : Dev := plainDev "ap_state" (.ablk [false, false, false] true false) id fun code v => accHit code v
    let tm : Dev := timerDev "m1_tm_tick" ⟨0, true, none, 4, 8⟩
    let c : Cfg := { ballsPerGame := 3, devs := [acc, tm], autoStart := false }
    let s1 := run c {} [.startGame, .addPlayer, .modeStart, .wait 9, .dev 1 5, .dev 0 0, .drain]
    let s2 := run c s1 [.wait 20, .setP 0 "score" (.int 50)]
    let s3 := run c s2 [.modeStart, .dev 0 1, .wait 4, .drain, .modeStart]
    Inv s3 ∧ s1.cur = 1 ∧ s1.dev = none ∧
    get (varsOf s1 0) "m1_tm_tick" = some (.int 2) ∧ get (varsOf s2 0) "m1_tm_tick" = some (.int 2) ∧
    get (varsOf s2 0) "ap_state" = some (.ablk [true, false, false] true false) ∧
    get (varsOf s2 0) "score" = some (.int 50) ∧ get (varsOf s2 1) "score" = some (.int 0) ∧
    s3.cur = 0 ∧ view s3 acc = some (.ablk [true, false, false] true false) ∧ view s3 tm = some (.int 0) ∧
    get (varsOf s3 1) "ap_state" = some (.ablk [false, true, false] true false) ∧
    get (varsOf s3 1) "m1_tm_tick" = some (.int 1) := by decide +kernel

/-- a held stop across a drain: player 1 advances a shot, the game mode is asked to stop with its `mode_<n>_stopping`
queue event held, the ball drains — player 1 is still up, the mode still bound to them, a further hit still counts for
player 1; on the release the mode stops, the ball ends, player 2 is up with a fresh shot and player 1 keeps 2. -/
example :
    let shot : Dev := plainDev "shot_sh1" (.int 0) id fun _ v => match v with | .int s => .int (s + 1) | x => x
    let c : Cfg := { initVars := [("pa", .int 5)], ballsPerGame := 2, devs := [shot] }
    let s1 := run c {} [.startGame, .addPlayer, .dev 0 0, .modeStopHold, .drain]
    let s2 := run c s1 [.dev 0 0, .modeStop, .modeStart]
    let s3 := run c s2 [.release]
    s1.hold = true ∧ s1.ending = true ∧ s1.cur = 0 ∧ s1.dev = some 0 ∧ view s2 shot = some (.int 2) ∧ s2.dev = some 0 ∧
    Inv s3 ∧ s3.cur = 1 ∧ s3.dev = some 1 ∧ s3.hold = false ∧ view s3 shot = some (.int 0) ∧
    get (varsOf s3 0) "shot_sh1" = some (.int 2) := by decide +kernel

/-- device-variable events are really produced: a timer running from the start (a tick every 4 units) posts its load
event (new variable, value 0) with the ball start and one `player_m1_tm_tick` event per tick, value / previous value /
change / the number of the player who is up; after the turn change they carry player 2's number. -/
example :
    let tm : Dev := timerDev "m1_tm_tick" ⟨0, true, none, 4, 8⟩
    let c : Cfg := { ballsPerGame := 3, devs := [tm] }
    let s1 := run c {} [.startGame, .addPlayer]
    (step c {} .startGame).2.getLast? = some ⟨"m1_tm_tick", .int 0, .int 0, .int 0, 1⟩ ∧
    (step c s1 (.wait 9)).2 = [⟨"m1_tm_tick", .int 1, .int 0, .int 1, 1⟩, ⟨"m1_tm_tick", .int 2, .int 1, .int 1, 1⟩] ∧
    (step c s1 (.dev 0 1)).2 = [⟨"m1_tm_tick", .int 7, .int 0, .int 7, 1⟩] ∧
    (step c (run c s1 [.drain]) (.wait 4)).2 = [⟨"m1_tm_tick", .int 1, .int 0, .int 1, 2⟩] := by decide +kernel

end MpfVerif.C11
