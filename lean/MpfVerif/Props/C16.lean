import MpfVerif.Lemmas.Template
import MpfVerif.Lemmas.CondDispatch
import MpfVerif.Gen.OpTables
/-!
# C16 — templates evaluate like Python and never act on stale values

Property theorems only (models: `Model/Template.lean`, `Model/CondDispatch.lean`; `Gen/OpTables.lean` is regenerated from
`mpf/core/placeholder_manager.py` on every run).
-/
namespace MpfVerif.C16
open MpfVerif.Template

/-- The operator tables the model dispatches through are exactly the `OPERATORS`, `BOOL_OPERATORS` and `COMPARISONS`
dict literals of the source (AST node class -> Python operator). -/
theorem tables_correct :
    MpfVerif.Gen.OpTables.operators = opTable ∧ MpfVerif.Gen.OpTables.boolOperators = boolTable ∧
    MpfVerif.Gen.OpTables.comparisons = cmpTable := by decide

/-- **Reads are subscribed**: every variable / setting / player variable / device attribute read while evaluating with
subscription appears in the returned subscription list — on value paths and on error paths (a failing evaluation keeps
what was collected before it). -/
theorem reads_subscribed (env : Env) (e : Expr) : ∀ l ∈ (eval true env e).reads, Sub.loc l ∈ (eval true env e).subs := by
  show Covered (eval true env e)
  induction e with
  | const | tnil => exact .pure _
  | name n => rw [eval_name]; exact fun _ h => nomatch h
  | unary _ _ ih => rw [eval_unary]; exact ih.bind fun _ => .pure _
  | bin _ _ _ iha ihb | cmp _ _ _ iha ihb | boolop _ _ _ iha ihb | tcons _ _ iha ihb | slice _ _ iha ihb =>
    simp only [eval_bin, eval_cmp, eval_boolop, eval_tcons, eval_slice]
    exact iha.bind fun _ => ihb.bind fun _ => .pure _
  | ite _ _ _ ihc iha ihb => rw [eval_ite]; exact ihc.bind fun v => by split <;> assumption
  | attr _ a ih => rw [eval_attr]; exact ih.bind fun v => attrRes_covered env v a
  | item _ _ ihe ihk => rw [eval_item]; exact ihe.bind fun v => ihk.bind fun vk => itemRes_covered env v vk

/-- **Fresh**: if `env'` has the same parameters and the same value at every location subscribed by the evaluation on
`env`, evaluating on `env'` gives the identical result: value or error class, subscription list, read log.  A template is
notified whenever a subscribed location changes; so while it is *not* notified, re-evaluating could not give anything
else: it cannot be stale.  (Covers attribute, subscript and slice access on every root - machine, machine.time, settings,
current_player, players[n], device - where "the same value" includes "the same absence": not in a game / player not in
the game; and error paths.) -/
theorem fresh (env env' : Env) (e : Expr) (h : Agree env env' (eval true env e).subs) :
    eval true env' e = eval true env e := by
  induction e with
  | const | tnil => rfl
  | name n => simp only [eval, h.1, h.2.1]
  | unary _ _ ih => simp only [eval_unary] at h ⊢; exact fresh_bind h ih fun _ _ _ => rfl
  | bin _ _ _ iha ihb | cmp _ _ _ iha ihb | boolop _ _ _ iha ihb | tcons _ _ iha ihb | slice _ _ iha ihb =>
    simp only [eval_bin, eval_cmp, eval_boolop, eval_tcons, eval_slice] at h ⊢
    exact fresh_bind h iha fun _ _ h => fresh_bind h ihb fun _ _ _ => rfl
  | ite _ _ _ ihc iha ihb =>
    simp only [eval_ite] at h ⊢
    refine fresh_bind h ihc fun v _ => ?_
    cases truthy v
    · exact ihb
    · exact iha
  | attr _ a ih => simp only [eval_attr] at h ⊢; exact fresh_bind h ih fun v _ => attrRes_fresh v a
  | item _ _ ihe ihk =>
    simp only [eval_item] at h ⊢
    exact fresh_bind h ihe fun v _ h => fresh_bind h ihk fun vk _ => itemRes_fresh v vk

/-- **Evaluates like Python**: in both modes (`sub` = evaluate / evaluate_and_subscribe) the evaluator's outcome is that of
Python's semantics with all `and`/`or` operands evaluated (`py false`), seen through MPF's error mapping `ofPy`/`mapErr`:
Python's value unchanged; the template default exactly when Python raises `TypeError`, when a name is missing (plain
`evaluate`) or when an attribute is read from a falsy parent (subscribing); a rejection (`crash`) for every other
exception; `unmodelled` passed through.  The operator semantics (`applyBin`, `pyIndex`, `pySlice`, `fmtScan` …) are shared
by both sides and validated against CPython by the correspondence run.  A `ValueError` nobody catches (`'%z' % 1`, slice
step 0, unknown mode) behaves like a missing name; a location whose placeholder raises `ValueError` (`absent`: not in a
game, player not in game) gives the default in both modes; the roots `mode` and `game` have no `subscribe()` and are
rejected when subscribing (second argument of `py`). -/
theorem eval_is_python (sub : Bool) (env : Env) (e : Expr) : (eval sub env e).out = ofPy sub (py false sub env e) := by
  induction e with
  | const | tnil => rfl
  | name n => rw [eval_name]
  | unary _ _ ih => rw [eval_unary, py_unary]; exact out_bind sub ih fun _ => (ofPy_liftOp ..).symm
  | bin _ _ _ iha ihb | cmp _ _ _ iha ihb | boolop _ _ _ iha ihb | slice _ _ iha ihb =>
    simp only [eval_bin, eval_cmp, eval_boolop, eval_slice, py_bin, py_cmp, py_boolop, py_slice]
    exact out_bind sub iha fun _ => out_bind sub ihb fun _ => (ofPy_liftOp ..).symm
  | tcons _ _ iha ihb => rw [eval_tcons, py_tcons]; exact out_bind sub iha fun _ => out_bind sub ihb fun _ => rfl
  | ite _ _ _ ihc iha ihb =>
    rw [eval_ite, py_ite]; exact out_bind sub ihc fun v => by split <;> assumption
  | attr _ a ih =>
    rw [eval_attr, py_attr]
    refine out_bind sub ih fun v => ?_
    simp only [attrRes, apply_ite Res.out, apply_ite (ofPy sub), access_out]
    cases sub <;> rfl
  | item _ _ ihe ihk => rw [eval_item, py_item]; exact out_bind sub ihe fun _ => out_bind sub ihk fun _ => itemRes_out ..

/-- the documented deviation, exactly: whenever evaluating all `and`/`or` operands succeeds, Python's short-circuit
evaluation (`py true`) yields the same value — the two can only differ by an error in an operand Python would skip -/
theorem all_operands_agree_with_short_circuit (rej : Bool) (env : Env) (e : Expr) (v : Val) (h : py false rej env e = .ok v) :
    py true rej env e = .ok v := strict_to_lazy env rej e v h

/-- corollary: a value computed by the evaluator is Python's (short-circuit) value of the expression -/
theorem value_is_pythons (sub : Bool) (env : Env) (e : Expr) (v : Val) (h : (eval sub env e).out = .ok v) :
    py true sub env e = .ok v := by
  apply strict_to_lazy
  rw [eval_is_python] at h
  cases hp : py false sub env e with
  | ok w => rw [hp] at h; exact congrArg Except.ok (Out.ok.inj h)
  | error x => rw [hp] at h; exact absurd h (ofPy_error_ne_ok sub x v)

/-- **Text templates, reads are subscribed**: every location read by any `{field}` of a text template is in the subscription
list of the template (the futures of all fields are combined with `Util.any`). -/
theorem text_reads_subscribed (env : Env) (ps : List Piece) :
    ∀ l ∈ (textEval (eval true env) ps).reads, Sub.loc l ∈ (textEval (eval true env) ps).subs :=
  textEval_covered _ (fun e => reads_subscribed env e) ps

/-- **Text templates are fresh**: same statement as `fresh` for a whole text template - while no subscribed location
changes, formatting again gives the identical text. -/
theorem text_fresh (env env' : Env) (ps : List Piece) (h : Agree env env' (textEval (eval true env) ps).subs) :
    textEval (eval true env') ps = textEval (eval true env) ps := by
  induction ps with
  | nil => rfl
  | cons p ps ih =>
    cases p with
    | lit s => simp only [textEval, ih h]
    | fld e spec =>
      have ee := fresh env env' e (h.mono (subs_text_fld_l _ _ _ _))
      simp only [textEval, ee]
      split
      · rename_i s hs
        rw [ih (h.mono (subs_text_fld_r _ _ _ _ s hs))]
      · rfl

/-- **Text templates format Python's values**: the text is the concatenation of the literal pieces and of every field
formatted (`format(value, spec)`, `None` for a field whose evaluation gave the default, `0` for `None` under the `d` spec)
from the value Python's semantics gives the field's expression. -/
theorem text_is_python (sub : Bool) (env : Env) (ps : List Piece) :
    (textEval (eval sub env) ps).out = textPy sub env ps := by
  induction ps with
  | nil => rfl
  | cons p ps ih =>
    cases p with
    | lit s => simp only [textEval, textPy, ih]
    | fld e spec =>
      simp only [textEval, textPy, eval_is_python]
      split <;> simp [ih]

/-- non-vacuity of `fresh`: `machine.b` differs between the environments but is not subscribed (the test is false) -/
example : Agree { vars := [(("machine", ["c"]), .int 0), (("machine", ["b"]), .int 1)] }
      { vars := [(("machine", ["c"]), .int 0), (("machine", ["b"]), .int 2)] }
      (eval true { vars := [(("machine", ["c"]), .int 0), (("machine", ["b"]), .int 1)] }
        (.ite (.attr (.name "machine") "c") (.attr (.name "machine") "b") (.const (.int 5)))).subs := by
  have hs : (eval true { vars := [(("machine", ["c"]), .int 0), (("machine", ["b"]), .int 1)] }
        (.ite (.attr (.name "machine") "c") (.attr (.name "machine") "b") (.const (.int 5)))).subs
      = [Sub.root "machine", Sub.loc ("machine", ["c"])] := by decide +kernel
  rw [hs]
  refine ⟨rfl, rfl, fun l hl => ?_⟩
  simp only [List.mem_cons, Sub.loc.injEq, reduceCtorEq, List.not_mem_nil, or_false, false_or] at hl
  subst hl
  decide +kernel

/-- non-vacuity of the deviation: strict evaluation fails where Python short-circuits -/
example : py false false {} (.boolop "And" (.const (.bool false)) (.bin "Add" (.const (.int 1)) (.const (.str "x")))) = .error .typeError ∧
    py true false {} (.boolop "And" (.const (.bool false)) (.bin "Add" (.const (.int 1)) (.const (.str "x")))) = .ok (.bool false) := by
  constructor <;> rfl

/-- non-vacuity: a concrete evaluation reads two locations, both subscribed, also when the taken branch fails -/
example : (eval true { vars := [(("machine", ["b"]), .int 1)] }
    (.ite (.attr (.name "machine") "b") (.bin "Add" (.attr (.name "machine") "a") (.const (.str "x"))) (.const (.int 5)))).reads
    = [("machine", ["b"]), ("machine", ["a"])] := by decide +kernel

/-- non-vacuity: outside a game `current_player.p` is absent - the evaluation yields the default, and the
location as well as the player placeholder itself are subscribed, so the game start re-evaluates it; in the game it is 7 -/
example : (eval true { absent := [("current_player", ["p"])] } (.attr (.name "current_player") "p")).out = .default ∧
    (eval true { absent := [("current_player", ["p"])] } (.attr (.name "current_player") "p")).subs
      = [Sub.root "current_player", Sub.loc ("current_player", ["p"])] ∧
    (eval true { vars := [(("current_player", ["p"]), .int 7)] } (.attr (.name "current_player") "p")).out = .ok (.int 7) := by
  decide +kernel

/-- non-vacuity: `players[1].score` reads the location `players.1.score`; `'%s-%d' % (machine.a, 2)` and a slice evaluate -/
example : (eval true { vars := [(("players", ["1", "score"]), .int 30)] }
      (.attr (.item (.name "players") (.const (.int 1))) "score")).reads = [("players", ["1", "score"])] ∧
    (eval false { vars := [(("machine", ["a"]), .str "x")] }
      (.bin "Mod" (.const (.str "%s-%d")) (.tcons (.attr (.name "machine") "a") (.tcons (.const (.int 2)) .tnil)))).out
      = .ok (.str "x-2") ∧
    (eval false {} (.slice (.const (.str "abcde")) (.tcons (.const (.int 1)) (.tcons (.const (.int (-1))) (.tcons (.const .none) .tnil))))).out
      = .ok (.str "bcd") := by
  decide +kernel

/-- non-vacuity of the text theorems: `a={machine.a:d}` with `machine.a = None` formats as `a=0` and subscribes `machine.a` -/
example : (textEval (eval true {}) [.lit "a=", .fld (.attr (.name "machine") "a") "d"]).out = .ok (.str "a=0") ∧
    (textEval (eval true {}) [.lit "a=", .fld (.attr (.name "machine") "a") "d"]).reads = [("machine", ["a"])] := by
  decide +kernel

open MpfVerif.CondDispatch

/-- **Turns are serial**: dispatching a post over `pre ++ post` is dispatching over `pre` and then, from the world `pre`
left, over `post`.  There is no other channel from one handler's turn to the next: in particular no verdict computed
earlier in the post is carried along. -/
theorem dispatch_is_serial (k : Kind) (w : World) (pre post : List Handler) :
    dispatch k w (pre ++ post) = dispatch k (dispatch k w pre) post := List.foldl_append ..

/-- **A conditional handler runs iff its condition is true on the values at ITS turn**: for every post kind, every world,
every handler list `pre ++ h :: post` of the event (ids distinct), `h` is called during the post iff the post is still
running when its turn comes and its condition — evaluated over the machine / player / settings / device values *as the
handlers before it left them* and the kwargs as relayed so far, overridden by its own kwargs — is true.  (The condition of
`none` is the unconditional handler.) -/
theorem handler_runs_iff_condition_true_at_its_turn (k : Kind) (w : World) (pre post : List Handler) (h : Handler)
    (h0 : h.id ∉ w.ran) (h1 : h.id ∉ pre.map (·.id)) (h2 : h.id ∉ post.map (·.id)) :
    h.id ∈ (dispatch k w (pre ++ h :: post)).ran ↔
      ((dispatch k w pre).st = .running ∧ verdict (condEnv (dispatch k w pre) h.kw) h.cond = .yes) := by
  rw [dispatch_is_serial, dispatch_cons, mem_ran_dispatch k _ post _ h2, stepH_ran]
  split
  · next c => simp [c]
  · next c => simp [c, mem_ran_dispatch k w pre _ h1, h0]

/-- the verdict of a condition is the truthiness of the value Python's semantics gives the expression (all `and`/`or`
operands evaluated); a missing name, a type error, `None` and an absent location are `False` -/
theorem condition_verdict_is_pythons (env : Env) (e : Expr) :
    verdict env (some e) = .yes ↔ ∃ v, py false false env e = .ok v ∧ truthy v = true := by
  simp only [verdict, eval_is_python false env e]
  cases py false false env e with
  | ok v => cases ht : truthy v <;> simp [ofPy, ht]
  | error x => cases x <;> simp [ofPy, mapErr]

/-- the two together — the statement of the property's last clause for event handlers: a handler registered as
`event{e}` is called iff Python's value of `e` over the values current at its turn is true -/
theorem conditional_handler_acts_on_current_values (k : Kind) (w : World) (pre post : List Handler) (h : Handler) (e : Expr)
    (hc : h.cond = some e) (h0 : h.id ∉ w.ran) (h1 : h.id ∉ pre.map (·.id)) (h2 : h.id ∉ post.map (·.id)) :
    h.id ∈ (dispatch k w (pre ++ h :: post)).ran ↔
      ((dispatch k w pre).st = .running ∧
        ∃ v, py false false (condEnv (dispatch k w pre) h.kw) e = .ok v ∧ truthy v = true) := by
  rw [handler_runs_iff_condition_true_at_its_turn k w pre post h h0 h1 h2, hc, condition_verdict_is_pythons]

/-- a handler whose condition is false at its turn leaves no trace: values, kwargs, log and status are unchanged -/
theorem skipped_handler_has_no_effect (k : Kind) (w : World) (h : Handler) (hv : verdict (condEnv w h.kw) h.cond = .no) :
    stepH k w h = w := by
  simp only [stepH, hv, ite_self]

/-- **Conditional config-player entries** (`variable_player: event: var{condition}: …`, `event_player: event: target{condition}`):
the items of one entry are decided one after the other, each on the values the items before it left (`a{machine.a==0}`
setting `machine.a` is seen by the next item's condition); an item acts iff its condition is true there. -/
theorem entry_items_decided_on_current_values (hk : List (String × Val)) (w : World) (pre post : List Step) (s : Step) :
    (pre ++ s :: post).foldl (stepS hk) w = post.foldl (stepS hk) (stepS hk (pre.foldl (stepS hk) w) s) ∧
    (∀ w' : World, w'.st = .running → verdict (condEnv w' hk) s.cond = .yes → stepS hk w' s = applyAct w' s.act) ∧
    (∀ w' : World, verdict (condEnv w' hk) s.cond = .no → stepS hk w' s = w') := by
  refine ⟨by simp [List.foldl_append], fun w' hr hv => ?_, fun w' hv => ?_⟩
  · simp [stepS, hr, hv]
  · simp only [stepS, hv, ite_self]

/-- registering a handler (`add_handler`: append + stable sort by priority, descending) keeps the list the dispatcher
walks ordered by priority, so "its turn" is: after every handler of higher priority and after the earlier-registered
handlers of the same priority -/
theorem handlers_stay_priority_ordered (h : Handler) (hs : List Handler) (s : Sorted hs) : Sorted (insertH h hs) := by
  induction hs with
  | nil => exact List.pairwise_singleton _ _
  | cons y t ih =>
    have ⟨hy, ht⟩ := List.pairwise_cons.1 s
    simp only [insertH]
    split
    · rename_i c
      refine List.pairwise_cons.2 ⟨fun x hx => ?_, ih ht⟩
      rcases (insertH_mem h x t).1 hx with rfl | hx
      · exact c
      · exact hy x hx
    · rename_i c
      refine List.pairwise_cons.2 ⟨fun x hx => ?_, s⟩
      rcases List.mem_cons.1 hx with rfl | hx
      · omega
      · have := hy x hx; omega

/-- non-vacuity (the seeded `condition-memo-per-post` scenario): two handlers registered as `ev{machine.a == 0}`; the first
sets `machine.a` to 1.  Only the first runs — although at the start of the post the condition of the second was true, so a
verdict memoised per post would have run it on a stale value. -/
example :
    let c : Expr := .cmp "Eq" (.attr (.name "machine") "a") (.const (.int 0))
    let w : World := { env := { vars := [(("machine", ["a"]), .int 0)] } }
    let h0 : Handler := { id := 0, prio := 2, cond := some c, steps := [{ act := .set ("machine", ["a"]) (.int 1) }] }
    let h1 : Handler := { id := 1, prio := 1, cond := some c }
    (dispatch .post w (insertH h1 (insertH h0 []))).ran = [0] ∧ verdict (condEnv w h1.kw) h1.cond = .yes := by
  decide +kernel

/-- non-vacuity (relay): the first handler relays `x = 0`; the second, guarded by `x > 0`, is skipped -/
example :
    let c : Expr := .cmp "Gt" (.name "x") (.const (.int 0))
    let h0 : Handler := { id := 0, prio := 2, cond := some c, ret := [("x", .int 0)] }
    let h1 : Handler := { id := 1, prio := 1, cond := some c }
    (dispatch .relay { kw := [("x", .int 5)] } [h0, h1]).ran = [0] ∧
    (dispatch .post { kw := [("x", .int 5)] } [h0, h1]).ran = [0, 1] := by
  decide +kernel

/-- non-vacuity: a `variable_player` entry whose first item sets `machine.a` makes the second item's condition false -/
example :
    let c : Expr := .cmp "Eq" (.attr (.name "machine") "a") (.const (.int 0))
    let w : World := { env := { vars := [(("machine", ["a"]), .int 0), (("machine", ["n0"]), .int 0)] } }
    let h : Handler := { id := 0, cond := some c, steps := [{ cond := some c, act := .set ("machine", ["a"]) (.int 1) },
                                                             { cond := some c, act := .add ("machine", ["n0"]) 1 }] }
    (dispatch .post w [h]).env.look ("machine", ["n0"]) = some (.int 0) ∧
    (dispatch .post w [h]).env.look ("machine", ["a"]) = some (.int 1) := by
  decide +kernel

end MpfVerif.C16
