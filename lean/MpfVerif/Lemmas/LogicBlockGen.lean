import MpfVerif.Model.LogicBlockGen
import MpfVerif.Lemmas.PyStore
import MpfVerif.Lemmas.LogicBlock
/-!
# The hand model of the logic-block methods does what the generated programs do (C18)

Each `*_gen` runs its program by `simp [genRun_eq, pystore]` and compares the fold of `applyEff` over the log with the hand function.
`count` is done in two steps: `count_run` says what the run logs, `count_gen` what that log means.
-/
namespace MpfVerif.LogicBlock
open MpfVerif.Py MpfVerif.Gen.LogicBlockOps

theorem pyCmp_int (op : String) (a b : Int) : pyCmp op (.int a) (.int b) = .ok (cmpOp op (a * 1000000) (b * 1000000)) := rfl
theorem cmp_ge (x y : Int) : cmpOp ">=" x y = decide (x ≥ y) := rfl
theorem cmp_le (x y : Int) : cmpOp "<=" x y = decide (x ≤ y) := rfl
theorem scale_le (a b : Int) : (a * 1000000 ≤ b * 1000000) = (a ≤ b) := by apply propext; omega

/-- `sctx c`, folded: unfolded, the whole table would ride through every step of a run -/
def ctxOf (c : Cfg) : SCtx := sctx c
@[pystore] theorem ctxOf_cfg (c : Cfg) (k : String) : (ctxOf c).cfg k = (sctx c).cfg k := rfl

@[pystore] theorem sigma_reads (c : Cfg) (s : St) :
    sigma c s "enabled" = .bool s.enabled ∧
    sigma c s "completed" = .bool s.completed ∧
    sigma c s "value" = .int s.value ∧
    sigma c s "ignore_hits" = .bool s.windowUntil.isSome ∧
    sigma c s "hit_value" = .int (hv c) := by
  simp [sigma]

attribute [pystore] sctx applyEff intOf ticksOf post_update_event get_start_value
  p_post_hit_events Gen.LogicBlockOps.enable Gen.LogicBlockOps.disable Gen.LogicBlockOps.reset

theorem genRun_eq (c : Cfg) (s : St) (prog : List SSt) (args : List (String × PyVal)) :
    genRun c s prog args =
      let r := runS (ctxOf c) (argLocals args) ⟨sigma c s, []⟩ prog
      let g := r.1.log.foldl applyEff { s := s }
      ((g.s, g.obs), g.ign, g.unknown, r.2.toOption) := by
  rw [genRun, callS_eq]
  rfl

theorem sigma_store_value (c : Cfg) (s : St) (v : Int) :
    (fun m => if m = "value" then .int v else sigma c s m) = sigma c { s with value := v } := by
  funext m
  by_cases h : m = "value" <;> simp [sigma, h]

def timerLog (ms : PyVal) : List Eff :=
  if ms.truthy then [⟨"delay", "reset", [("name", .str "timeout"), ("ms", ms), ("callback", .str "cb:_logic_block_timeout")]⟩]
  else []

@[pystore] theorem timer_start_run (c : SCtx) (l : Locals) (st : SState) :
    runS c l st p_logic_block_timer_start = (⟨st.σ, st.log ++ timerLog (c.cfg "logic_block_timeout")⟩, .ok .none) := by
  rw [runS, timerLog]
  cases h : (c.cfg "logic_block_timeout").truthy <;> simp [p_logic_block_timer_start, pystore, h]

@[pystore] theorem timer_means (c : Cfg) (g : G) :
    (timerLog (.int (msOf c.timeout))).foldl applyEff g = { g with s := timerStart c g.s } := by
  by_cases h : c.timeout = 0 <;> simp [timerLog, timerStart, pystore, msOf, h]

theorem enable_gen (c : Cfg) (s : St) :
    genRun c s Gen.LogicBlockOps.enable [] = (LogicBlock.enable c s, false, false, some .none) := by
  simp [genRun_eq, pystore, LogicBlock.enable, upd]

theorem disable_gen (c : Cfg) (s : St) :
    genRun c s Gen.LogicBlockOps.disable [] = (LogicBlock.disable s, false, false, some .none) := by
  simp [genRun_eq, pystore, LogicBlock.disable, upd]

theorem reset_gen (c : Cfg) (s : St) (hk : c.kind = .counter) (hf : s.flags = []) :
    genRun c s Gen.LogicBlockOps.reset [] = (LogicBlock.reset c s, false, false, some .none) := by
  simp [genRun_eq, pystore, LogicBlock.reset, startVal, startFlags, upd, hk, hf]

theorem check_complete_run (c : Cfg) (l : Locals) (st : SState) (v : Int) (hval : st.σ "value" = .int v)
    (hl : l "count_complete_value" = match c.goal with | some g => .int g | none => .none) :
    runS (ctxOf c) l st check_complete = (st, .ok (.bool (goalReached c v))) := by
  rw [runS]
  cases hg : c.goal <;> cases hd : c.down <;> simp only [hg] at hl <;>
    simp [check_complete, pystore, goalReached, hval, hl, hg, hd]

/-- `complete` in mid-run: the store is that of `g.s`, the log so far means `g` -/
theorem complete_sim (c : Cfg) (g0 g : G) (l : Locals) (st : SState) (hk : c.kind = .counter) (hσ : st.σ = sigma c g.s)
    (hg : st.log.foldl applyEff g0 = g) (hf : g.s.flags = []) :
    (runS (ctxOf c) l st Gen.LogicBlockOps.complete).2 = .ok .none ∧
    (runS (ctxOf c) l st Gen.LogicBlockOps.complete).1.log.foldl applyEff g0 =
      { g with s := (LogicBlock.complete c g.s).1, obs := g.obs ++ (LogicBlock.complete c g.s).2 } := by
  rw [runS]
  cases hc : g.s.completed
  · -- the run logs `completed := true`, the removal of the timeout, the completion events, then what `reset` and `disable`
    -- log, each under its configuration flag; these two flags are the `if`s the first `simp` leaves, `hg` folds the old log
    simp [Gen.LogicBlockOps.complete, pystore, hσ, hc]
    cases hr : c.resetOnComplete <;> cases hd : c.disableOnComplete <;>
      simp [hg, pystore, LogicBlock.complete, afterComplete, LogicBlock.reset, LogicBlock.disable, timerStart_eq, startVal,
        startFlags, upd, hk, hf, hc, hr, hd]
  · -- already completed: the method returns at once
    simp [Gen.LogicBlockOps.complete, pystore, hσ, hc, hg, LogicBlock.complete]

theorem complete_gen (c : Cfg) (s : St) (hk : c.kind = .counter) (hf : s.flags = []) :
    genRun c s Gen.LogicBlockOps.complete [] = (LogicBlock.complete c s, false, false, some .none) := by
  simp [genRun_eq, complete_sim c { s := s } { s := s } _ ⟨sigma c s, []⟩ hk rfl rfl hf, pystore]

theorem restart_gen (c : Cfg) (s : St) (hk : c.kind = .counter) (hf : s.flags = []) :
    genRun c s Gen.LogicBlockOps.restart [] = (LogicBlock.restart c s, false, false, some .none) := by
  simp [genRun_eq, Gen.LogicBlockOps.restart, pystore, LogicBlock.restart, LogicBlock.reset, LogicBlock.enable, timerStart_eq,
    startVal, startFlags, upd, hk, hf]

/-- `_logic_block_timeout` runs after the delay manager has taken the `timeout` delay out: it is `fireT` -/
theorem timeout_gen (c : Cfg) (s : St) (hk : c.kind = .counter) (hf : s.flags = []) (hd : s.timeoutDue = some s.now) :
    genRun c { s with timeoutDue := none } p_logic_block_timeout [] = (LogicBlock.fireT c s, false, false, some .none) := by
  simp [genRun_eq, p_logic_block_timeout, pystore, LogicBlock.fireT, LogicBlock.reset, startVal, startFlags, upd, hk, hf, hd]

/-- `stop_ignoring_hits` is the state change of `fireW` -/
theorem stop_ignoring_gen (c : Cfg) (s : St) (hd : s.windowUntil = some s.now) :
    genRun c s stop_ignoring_hits [] = (LogicBlock.fireW s, false, false, some .none) := by
  simp [genRun_eq, stop_ignoring_hits, pystore, LogicBlock.fireW, hd]

theorem check_complete_gen (c : Cfg) (s : St) :
    genRun c s check_complete [] = ((s, []), false, false, some (.bool (goalReached c s.value))) := by
  cases hg : c.goal <;> cases hd : c.down <;> simp [genRun_eq, check_complete, pystore, goalReached, hg, hd]

/-- what an accepted hit logs before the goal is looked at; `v` is the new value -/
def hitLog (c : Cfg) (v : Int) : List Eff :=
  [⟨"store", "value", [("value", .int v)]⟩,
   ⟨"events", "post", [("event", .str "logicblock_(name)_updated"), ("value", .int v), ("enabled", .bool true)]⟩,
   ⟨"events", "post_list", [("list", .str "events_when_hit"), ("count", .int v),
     ("hits", match hitArgs c v with | some a => .int a.1 | none => .none),
     ("remaining", match hitArgs c v with | some a => .int a.2 | none => .none)]⟩]

/-- what the last statement of `count` logs -/
def windowLog (c : Cfg) : List Eff :=
  if c.window = 0 then []
  else [⟨"store", "ignore_hits", [("value", .bool true)]⟩,
    ⟨"delay", "add", [("name", .str "ignore_hits_within_window"), ("ms", .int (msOf c.window)), ("callback", .str "cb:stop_ignoring_hits")]⟩]

theorem hitLog_means (c : Cfg) (s : St) (he : s.enabled = true) :
    (hitLog c (s.value + hv c)).foldl applyEff { s := s } =
      ⟨{ s with value := s.value + hv c },
        [upd { s with value := s.value + hv c }, .hit (s.value + hv c) (hitArgs c (s.value + hv c))], false, false⟩ := by
  cases h : hitArgs c (s.value + hv c) <;> simp [hitLog, pystore, upd, he, h]

theorem windowLog_means (c : Cfg) (g : G) (hi : g.ign = false) :
    (windowLog c).foldl applyEff g = { g with s := startWindow c g.s } := by
  by_cases h : c.window = 0 <;> simp [windowLog, startWindow, pystore, msOf, h, ← hi]

/-- an accepted hit: the log of `count` is the hit events, then `complete`'s if the goal is reached, then the window's -/
theorem count_run (c : Cfg) (s : St) (hk : c.kind = .counter) (hf : s.flags = []) (he : s.enabled = true)
    (hw : s.windowUntil = none) :
    (runS (ctxOf c) (argLocals []) ⟨sigma c s, []⟩ Gen.LogicBlockOps.count).2 = .ok .none ∧
    (runS (ctxOf c) (argLocals []) ⟨sigma c s, []⟩ Gen.LogicBlockOps.count).1.log =
      (if goalReached c (s.value + hv c) then
        (runS (ctxOf c) (argLocals []) ⟨sigma c { s with value := s.value + hv c }, hitLog c (s.value + hv c)⟩
          Gen.LogicBlockOps.complete).1.log
       else hitLog c (s.value + hv c)) ++ windowLog c := by
  rw [runS]
  cases hg : c.goal <;>
    simp [Gen.LogicBlockOps.count, pystore, msOf, he, hw, hg, check_complete_run (c := c) (v := s.value + hv c),
      complete_sim c { s := s } _ _ _ hk _ rfl, sigma_store_value, hf]
  -- left: the two sides as `if`s over direction, goal reached and window
  all_goals
    cases hr : goalReached c (s.value + hv c) <;> cases hd : c.down <;> by_cases h : c.window = 0 <;>
      simp [hitLog, windowLog, hitArgs, msOf, hg, hd, h]

/-- `Counter.count()` as generated = `count` of the hand model, in every state of a counter -/
theorem count_gen (c : Cfg) (s : St) (hk : c.kind = .counter) (hf : s.flags = []) :
    genRun c s Gen.LogicBlockOps.count [] = (LogicBlock.count c s, false, false, some .none) := by
  cases he : s.enabled
  · simp [genRun_eq, Gen.LogicBlockOps.count, pystore, he, LogicBlock.count]
  cases hw : s.windowUntil with
  | some d => simp [genRun_eq, Gen.LogicBlockOps.count, pystore, he, hw, LogicBlock.count]
  | none =>
    obtain ⟨hval, hlog⟩ := count_run c s hk hf he hw
    simp only [genRun_eq, hval, hlog, List.foldl_append]
    cases hr : goalReached c (s.value + hv c)
    · rw [if_neg Bool.false_ne_true, hitLog_means c s he, windowLog_means _ _ rfl]
      simp [LogicBlock.count, he, hw, hr, Except.toOption]
    · have hc := complete_sim c { s := s } _ (argLocals [])
        ⟨sigma c { s with value := s.value + hv c }, hitLog c (s.value + hv c)⟩ hk rfl (hitLog_means c s he) hf
      rw [if_pos rfl, hc.2, windowLog_means _ _ rfl]
      simp [LogicBlock.count, he, hw, hr, Except.toOption]

end MpfVerif.LogicBlock
