import MpfVerif.Lemmas.BcpReader
/-! An encoded scalar message never looks like it carries a payload marker (unless a parameter is named `bytes`). -/
namespace MpfVerif.Bcp

theorem splitLast_eq (pat l h t : Bytes) (hs : splitLast pat l = some (h, t)) : l = h ++ pat ++ t := by
  induction l generalizing h with
  | nil => simp [splitLast] at hs
  | cons b rest ih =>
    unfold splitLast at hs
    cases hr : splitLast pat rest with
    | some p =>
      obtain ⟨h', t'⟩ := p
      simp only [hr, Option.some.injEq, Prod.mk.injEq] at hs
      obtain ⟨rfl, rfl⟩ := hs
      rw [ih h' hr]; simp
    | none =>
      simp only [hr] at hs
      split at hs
      · rename_i hp
        simp only [Option.some.injEq, Prod.mk.injEq] at hs
        obtain ⟨rfl, rfl⟩ := hs
        obtain ⟨t, ht⟩ := List.isPrefixOf_iff_prefix.mp hp
        rw [← ht]; simp
      · cases hs

theorem joinAmp_prefix (a x : Bytes) (r : List Bytes) : a ++ joinAmp (x :: r) = joinAmp ((a ++ x) :: r) := by
  cases r <;> simp [joinAmp]

theorem splitAll_encodeFlat (cmd : Bytes) (kv : Bytes × Val) (r : List (Bytes × Val)) (hc : 38 ∉ cmd)
    (hwf : KwWF (kv :: r)) :
    splitAll 38 (encodeFlat cmd (kv :: r)) = (cmd ++ 63 :: encodePair kv) :: r.map encodePair := by
  have hps := encodePairs_no_amp _ hwf
  rw [List.map_cons, List.forall_mem_cons] at hps
  rw [encodeFlat, if_neg (by simp), List.map_cons, ← List.singleton_append (l := joinAmp _), ← List.append_assoc,
    joinAmp_prefix, splitAll_joinAmp _ (by simp) (List.forall_mem_cons.mpr ⟨by simp [hc, hps.1], hps.2⟩)]
  simp

def sBytes : Bytes := [98, 121, 116, 101, 115]   -- "bytes"

/-- **no accidental payload marker**: an encoded scalar message whose parameters are not named `bytes` is never taken
for a line with an attached payload: `bytes=<digits>` would be a whole `&`-segment of the line, but the segment with the
command contains `?` and an encoded pair of that form has the key `bytes`. -/
theorem encoded_no_marker (cmd : Bytes) (kw : List (Bytes × Val)) (hc : ∀ c ∈ cmd, c ≠ 38 ∧ c ≠ 63) (hwf : KwWF kw)
    (hb : ∀ kv ∈ kw, kv.1 ≠ sBytes) : markerOf (encodeFlat cmd kw) = none := by
  unfold markerOf
  cases hs : splitLast sMarker (encodeFlat cmd kw) with
  | none => rfl
  | some p =>
    obtain ⟨h, t⟩ := p
    cases hd : digitsVal 0 t with
    | none => simp [hd]
    | some n =>
      exfalso
      have hL : encodeFlat cmd kw = h ++ 38 :: (sBytes ++ 61 :: t) := by
        rw [splitLast_eq _ _ _ _ hs]; simp [sMarker, sBytes]
      have hdig := digitsVal_some_digits 0 t n hd
      have h38 : 38 ∉ sBytes ++ 61 :: t := by have := hdig 38; simpa [sBytes, isDigit] using this
      have h63 : 63 ∉ sBytes ++ 61 :: t := by have := hdig 63; simpa [sBytes, isDigit] using this
      have hseg : sBytes ++ 61 :: t ∈ splitAll 38 (encodeFlat cmd kw) := by
        rw [hL, splitAll_append_sep, splitAll_single 38 _ h38]; simp
      cases kw with
      | nil => exact (hc 38 (by rw [show cmd = encodeFlat cmd [] from rfl, hL]; simp)).1 rfl
      | cons kv r =>
        rw [splitAll_encodeFlat cmd kv r (fun h => (hc 38 h).1 rfl) hwf, List.mem_cons] at hseg
        rcases hseg with e | hm
        · exact h63 (e ▸ by simp)
        · obtain ⟨⟨k, v⟩, hkv, e⟩ := List.mem_map.mp hm
          have hmem : (k, v) ∈ kv :: r := List.mem_cons_of_mem _ hkv
          exact hb _ hmem (key_of_prefix (s := sBytes) (t := []) (hwf.1 _ hmem).1 (by decide) (by rw [List.append_nil, e]))

end MpfVerif.Bcp
