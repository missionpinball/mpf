import MpfVerif.Lemmas.Bcp
/-! Helper lemmas for the C19 receiver model. -/
namespace MpfVerif.Bcp

theorem feed_append (s : RSt) (a b : Bytes) :
    feed s (a ++ b) = ((feed (feed s a).1 b).1, (feed s a).2 ++ (feed (feed s a).1 b).2) := by
  induction a generalizing s with
  | nil => simp [feed]
  | cons x xs ih =>
    simp only [List.cons_append, feed]
    rw [ih]
    simp [List.append_assoc]

theorem feedChunks_eq_feed (s : RSt) (cs : List Bytes) : feedChunks s cs = feed s cs.flatten := by
  induction cs generalizing s with
  | nil => simp [feedChunks, feed]
  | cons c r ih =>
    simp only [feedChunks, List.flatten_cons]
    rw [feed_append, ih]

theorem feed_line_bytes (buf l : Bytes) (h : 10 ∉ l) :
    feed { buf := buf, mode := .line } l = ({ buf := buf ++ l, mode := .line }, []) := by
  induction l generalizing buf with
  | nil => simp [feed]
  | cons x xs ih =>
    rw [List.mem_cons, not_or] at h
    simp [feed, stepByte, Ne.symm h.1, ih _ h.2]

theorem feed_line (l : Bytes) (h : 10 ∉ l) : feed {} (l ++ [10]) = stepByte { buf := l } 10 := by
  rw [feed_append, feed_line_bytes [] l h]
  simp [feed]

theorem splitLast_none (c : Nat) (r t : Bytes) (h : c ∉ t) : splitLast (c :: r) t = none := by
  induction t with
  | nil => rfl
  | cons x xs ih =>
    rw [List.mem_cons, not_or] at h
    simp [splitLast, ih h.2, List.isPrefixOf, h.1]

theorem splitLast_append (c : Nat) (r l d : Bytes) (h : c ∉ r ++ d) :
    splitLast (c :: r) (l ++ c :: r ++ d) = some (l, d) := by
  induction l with
  | nil =>
    rw [List.nil_append, List.cons_append, splitLast, splitLast_none c r _ h, ← List.cons_append, prefix_self_append]
    simp
  | cons x xs ih => rw [List.cons_append, List.cons_append, splitLast, ih]

theorem markerOf_wire (l : Bytes) (n : Nat) : markerOf (l ++ sMarker ++ natText n) = some (l, n) := by
  have h38 : 38 ∉ [98, 121, 116, 101, 115, 61] ++ natText n := by
    have := natText_digits n 38
    simpa [isDigit] using this
  unfold markerOf
  rw [sMarker, splitLast_append 38 _ l _ h38]
  simp [natText_ne_nil, digitsVal_natText]

theorem feed_payload (msg got p : Bytes) (need : Nat) (hp : p ≠ []) (hn : got.length + p.length = need) :
    feed { buf := [], mode := .payload msg need got } p = ({}, [(msg, got ++ p)]) := by
  induction p generalizing got with
  | nil => exact absurd rfl hp
  | cons x xs ih =>
    cases xs with
    | nil => simp [feed, stepByte, ← hn]
    | cons y ys =>
      have : (got ++ [x]).length ≠ need := by simp at hn ⊢; omega
      rw [feed]
      simp only [stepByte, this, if_false]
      rw [ih (got ++ [x]) (by simp) (by simp at hn ⊢; omega)]
      simp

/-- a line without marker is delivered as is -/
def NoMarker (l : Bytes) : Prop := markerOf l = none

theorem feed_wire (f : Frame) (h10 : 10 ∉ f.1) (hm : f.2 = [] → NoMarker f.1) :
    feed {} (wire f) = ({}, [f]) := by
  obtain ⟨l, p⟩ := f
  unfold wire
  cases p with
  | nil => simp [feed_line l h10, stepByte, show markerOf l = none from hm rfl]
  | cons x xs =>
    have h10' : 10 ∉ l ++ sMarker ++ natText (x :: xs).length := by
      have := natText_digits (x :: xs).length 10
      simpa [h10, sMarker, isDigit] using this
    have e : ∀ t : Bytes, t ++ 10 :: (x :: xs) = t ++ [10] ++ (x :: xs) := by simp
    rw [if_neg (by simp), e, feed_append, feed_line _ h10']
    simp only [stepByte, markerOf_wire, List.length_cons, Nat.add_one_ne_zero, if_false, if_true]
    rw [feed_payload l [] (x :: xs) _ (by simp) (by simp)]
    rfl

end MpfVerif.Bcp
