import MpfVerif.Lemmas.LightHw
/-! C09: the whole light device of the model (`DSt`: the stack with its suppression shortcuts, brightness factor, colour
correction table, channel mapping and the fade channels) under arbitrary histories: every channel's latest `set_fade`
command is the *corrected* image of the last target that `_schedule_update` sent — the link between the (uncorrected)
`_last_fade_target` bookkeeping and what the hardware channels were told. -/
namespace MpfVerif.Light

theorem cmdOf_tb (tab : List Nat) (q nchan i style : Nat) (t : Target) :
    (cmdOf tab q nchan i style t).tb = chanVal nchan i style (outC tab q t.tc) := by
  cases t <;> rfl

theorem sendAll_fst (tab : List Nat) (q now nchan style : Nat) (t : Target) (i : Nat) (cs : List Chan) :
    (sendAll tab q now nchan style t i cs).1 =
      cs.mapIdx fun j c => (c.setFade now (cmdOf tab q nchan (i + j) style t)).1 := by
  induction cs generalizing i with
  | nil => rfl
  | cons c r ih =>
    have e : (sendAll tab q now nchan style t i (c :: r)).1 =
        (c.setFade now (cmdOf tab q nchan i style t)).1 :: (sendAll tab q now nchan style t (i + 1) r).1 := rfl
    rw [e, ih, List.mapIdx_cons]
    simp only [Nat.add_assoc, Nat.add_comm 1, Nat.add_zero]

theorem apply_nil (d : DSt) (res : LSt × List Target) (h : res.2 = []) : (d.apply res).1 = { d with l := res.1 } := by
  simp only [DSt.apply, h]

theorem apply_cons (d : DSt) (res : LSt × List Target) (t : Target) (ts : List Target) (h : res.2 = t :: ts) :
    (d.apply res).1 =
      { d with l := res.1, chans := (sendAll d.corr d.bright res.1.now d.nchan d.style t 0 d.chans).1 } := by
  simp only [DSt.apply, h]

/-- an operation on the device: a command / delay firing / clock advance on the light, or the loop resuming the stepping
task of channel `i` -/
inductive DOp
  | light (o : Op)
  | task (i : Nat)

def dstep (d : DSt) : DOp → DSt
  | .light o => (d.apply (step d.l o)).1
  | .task i =>
    match d.chans[i]? with
    | none => d
    | some c =>
      match c.stepTask d.l.now d.interval with
      | none => d
      | some r => { d with chans := modAt d.chans i r.1 }

def drun (d : DSt) : List DOp → DSt
  | [] => d
  | o :: r => drun (dstep d o) r

/-- the device as the driver's `init` (+ `corr`) line builds it -/
def dinit (n iv mf style q : Nat) (onC : RGB) (tab : List Nat) : DSt :=
  { l := {}, nchan := n, interval := iv, chans := List.replicate n { maxFade := mf }, corr := tab, style := style,
    bright := q, onC := onC }

theorem dstep_task (d : DSt) (i : Nat) :
    dstep d (.task i) = d ∨
    ∃ c r, d.chans[i]? = some c ∧ c.stepTask d.l.now d.interval = some r ∧
      dstep d (.task i) = { d with chans := d.chans.set i r.1 } := by
  rw [dstep]
  split
  · exact Or.inl rfl
  next c hc =>
    split
    · exact Or.inl rfl
    next r hr => exact Or.inr ⟨c, r, hc, hr, rfl⟩

/-- the configuration never changes, nor the number of channels -/
theorem dstep_frame (d : DSt) (o : DOp) :
    ∃ l cs, dstep d o = { d with l := l, chans := cs } ∧ cs.length = d.chans.length := by
  cases o with
  | light o =>
    rw [dstep]
    cases h : (step d.l o).2 with
    | nil => exact ⟨_, _, apply_nil d _ h, rfl⟩
    | cons t ts => exact ⟨_, _, apply_cons d _ t ts h, by rw [sendAll_fst, List.length_mapIdx]⟩
  | task i =>
    rcases dstep_task d i with e | ⟨c, r, _, _, e⟩
    · exact ⟨d.l, d.chans, e, rfl⟩
    · exact ⟨d.l, _, e, List.length_set⟩

theorem drun_frame (ops : List DOp) (d : DSt) :
    ∃ l cs, drun d ops = { d with l := l, chans := cs } ∧ cs.length = d.chans.length := by
  induction ops generalizing d with
  | nil => exact ⟨d.l, d.chans, rfl, rfl⟩
  | cons o r ih =>
    obtain ⟨l1, cs1, e1, h1⟩ := dstep_frame d o
    obtain ⟨l, cs, e, h⟩ := ih (dstep d o)
    rw [e1] at h
    exact ⟨l, cs, e.trans (by rw [e1]), h.trans h1⟩

def DInv (d : DSt) : Prop :=
  Inv d.l ∧ ∀ i c, d.chans[i]? = some c → ChanOK c ∧ c.cmd = d.l.last.map (cmdOf d.corr d.bright d.nchan i d.style)

theorem dstep_inv (d : DSt) (o : DOp) (h : DInv d) : DInv (dstep d o) := by
  obtain ⟨hl, hch⟩ := h
  cases o with
  | light o =>
    rw [dstep]
    obtain ⟨hl', hem⟩ := step_inv d.l o hl
    rcases hem with ⟨h2, hlast⟩ | ⟨t, h2, hlast⟩
    · rw [apply_nil d _ h2]
      exact ⟨hl', fun i c hc => by rw [hlast]; exact hch i c hc⟩
    · rw [apply_cons d _ t [] h2]
      refine ⟨hl', fun i c' hc' => ?_⟩
      rw [sendAll_fst, List.getElem?_mapIdx] at hc'
      obtain ⟨c, hc, rfl⟩ := Option.map_eq_some_iff.mp hc'
      exact ⟨setFade_ok _ _ _ (hch i c hc).1, by rw [setFade_cmd, hlast, Nat.zero_add]; rfl⟩
  | task i =>
    rcases dstep_task d i with e | ⟨c, r, hc, hr, e⟩
    · rw [e]
      exact ⟨hl, hch⟩
    · rw [e]
      refine ⟨hl, fun j c' hc' => ?_⟩
      by_cases hij : i = j
      · subst hij
        obtain ⟨ok, hcmd⟩ := hch i c hc
        rw [List.getElem?_set_self (List.getElem?_eq_some_iff.mp hc).1] at hc'
        cases hc'
        exact ⟨stepTask_ok ok hr, (stepTask_cmd hr).trans hcmd⟩
      · exact hch j c' (by rwa [List.getElem?_set_ne hij] at hc')

theorem drun_inv (ops : List DOp) : ∀ d, DInv d → DInv (drun d ops) := by
  induction ops with
  | nil => intro d h; exact h
  | cons o r ih => intro d h; exact ih _ (dstep_inv d o h)

theorem dinit_inv (n iv mf style q : Nat) (onC : RGB) (tab : List Nat) : DInv (dinit n iv mf style q onC tab) := by
  refine ⟨inv_empty, fun i c hc => ?_⟩
  obtain ⟨_, rfl⟩ : i < n ∧ { maxFade := mf } = c := by simpa [dinit, List.getElem?_replicate] using hc
  exact ⟨chanOK_init mf, rfl⟩

end MpfVerif.Light
