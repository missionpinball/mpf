import MpfVerif.Lemmas.DriverCmds
/-! Lemmas about the timers of `Model/Driver.lean`: `timed_disable`, `enable_limit_reached` and the PSU-delayed calls. -/
namespace MpfVerif.C08
open MpfVerif.Py MpfVerif.Driver

/-- a software-timed pulse that is on has its timer registered -/
def Pre (s : Driver.St) : Prop := s.softOn = true → s.timedDisable.isSome = true

/-- a coil held on by `_enable_now` since `t` on a coil with `max_hold_duration` has its watchdog registered for
`t + max_hold_duration` -/
def LimitInv (c : Ctx) (s : Driver.St) : Prop :=
  (c.cfg "max_hold_duration").truthy = true →
    ∀ t, s.holdSince = some t → s.limitDue = some (t + secsToMs (c.cfg "max_hold_duration"))

/-- the watchdog only runs while the coil is held -/
def LimHold (s : Driver.St) : Prop := s.limitDue.isSome = true → s.holdSince.isSome = true

/-- the part of the invariant that does not mention the clock -/
def SInv (c : Ctx) (s : Driver.St) : Prop := Pre s ∧ LimitInv c s ∧ LimHold s

/-- no registered timer has been missed: every deadline is now or later -/
def NoOverdue (s : Driver.St) : Prop := ∀ d ∈ dues s, s.now ≤ d

/-- `s'` is `s` at the same instant with some timers removed and some added that are not in the past -/
def Grows (s s' : Driver.St) : Prop := s'.now = s.now ∧ ∀ d ∈ dues s', d ∈ dues s ∨ s.now ≤ d

/-- the switch-off timer of a software-timed pulse is pending and has not been missed -/
def TimerInv (s : Driver.St) : Prop := s.softOn = true → ∃ d, s.timedDisable = some d ∧ s.now ≤ d

theorem mem_dues (s : Driver.St) (d : Nat) :
    d ∈ dues s ↔ s.timedDisable = some d ∨ s.limitDue = some d ∨ ∃ p ∈ s.pend, p.due = d := by
  unfold dues
  simp only [List.mem_append, Option.mem_toList, List.mem_map, or_assoc]

theorem Grows.refl (s : Driver.St) : Grows s s := ⟨rfl, fun _ h => Or.inl h⟩

theorem Grows.trans {a b d : Driver.St} (h1 : Grows a b) (h2 : Grows b d) : Grows a d := by
  refine ⟨h2.1.trans h1.1, fun x hx => ?_⟩
  rcases h2.2 x hx with h | h
  · exact h1.2 x h
  · exact .inr (h1.1 ▸ h)

theorem Grows.noOverdue {s s' : Driver.St} (h : Grows s s') (hs : NoOverdue s) : NoOverdue s' := by
  intro d hd
  rw [h.1]
  exact (h.2 d hd).elim (hs d) id

theorem Grows.of_fields {s s' : Driver.St} (hn : s'.now = s.now)
    (htd : ∀ d, s'.timedDisable = some d → s.timedDisable = some d ∨ s.now ≤ d)
    (hl : ∀ d, s'.limitDue = some d → s.limitDue = some d ∨ s.now ≤ d)
    (hp : ∀ p ∈ s'.pend, p ∈ s.pend ∨ s.now ≤ p.due) : Grows s s' := by
  refine ⟨hn, fun d hd => ?_⟩
  simp only [mem_dues] at hd ⊢
  rcases hd with h | h | ⟨p, hp', rfl⟩
  · exact (htd d h).imp .inl id
  · exact (hl d h).imp (fun h => .inr (.inl h)) id
  · exact (hp p hp').imp (fun h => .inr (.inr ⟨p, h, rfl⟩)) id

theorem timerInv_of (s : Driver.St) (h1 : Pre s) (h2 : NoOverdue s) : TimerInv s := by
  intro hs
  have := h1 hs
  cases htd : s.timedDisable with
  | none => simp [htd] at this
  | some d => exact ⟨d, rfl, h2 d ((mem_dues s d).2 (Or.inl htd))⟩

theorem doDisable_inv (c : Ctx) (s : Driver.St) : SInv c (doDisable s).1 ∧ Grows s (doDisable s).1 :=
  ⟨by refine ⟨?_, ?_, ?_⟩ <;> simp [doDisable, Pre, LimitInv, LimHold],
   .of_fields rfl (fun _ => .inl) (by simp [doDisable]) (fun _ => .inl)⟩

theorem enableNow_inv (c : Ctx) (s : Driver.St) (pm pp h : PyVal) (hs : SInv c s) :
    SInv c (enableNow c s pm pp h).1 ∧ Grows s (enableNow c s pm pp h).1 := by
  obtain ⟨_, hl, hh⟩ := hs
  rw [enableNow_eq]
  refine ⟨⟨by simp [Pre], fun hmd t ht => ?_, by simp [LimHold]⟩, .of_fields rfl (fun _ => .inl) (fun d hd => ?_) (fun _ => .inl)⟩
  · -- an armed watchdog belongs to an earlier hold (`LimHold`) and is kept; otherwise the coil was not held
    cases hlim : s.limitDue <;> cases hhold : s.holdSince <;> simp_all [LimitInv, LimHold]
  · dsimp only at hd
    split at hd
    · exact .inr (by simp at hd; omega)
    · exact .inl hd

variable {c : Ctx} {s : Driver.St} {r : Driver.St × List Cmd}

theorem Outcome.inv {V : Prop} (h : Outcome c V s r) (hs : SInv c s) : SInv c r.1 ∧ Grows s r.1 := by
  induction h with
  | nop | timed | pulse => exact ⟨hs, .refl _⟩
  | disable => exact doDisable_inv c _
  | @timerOff s =>
    have hd : Grows s { s with timedDisable := none } := .of_fields rfl (by simp) (fun _ => .inl) (fun _ => .inl)
    exact ⟨(doDisable_inv c _).1, hd.trans (doDisable_inv c _).2⟩
  | soft pm => exact ⟨⟨fun _ => rfl, hs.2.1, hs.2.2⟩,
      .of_fields rfl (fun d h => .inr (by simp at h; omega)) (fun _ => .inl) (fun _ => .inl)⟩
  | enable => exact enableNow_inv c _ _ _ _ hs
  | pend _ hp => exact ⟨hs, .of_fields rfl (fun _ => .inl) (fun _ => .inl) fun q hq => by
      rcases List.mem_append.1 hq with hq | hq
      · exact .inl hq
      · rw [List.mem_singleton.1 hq]
        exact .inr hp⟩
  | @afterDrop s r i _ ih =>
    have hd : Grows s { s with pend := s.pend.eraseIdx i } :=
      .of_fields rfl (fun _ => .inl) (fun _ => .inl) fun q hq => .inl (List.mem_of_mem_eraseIdx hq)
    have h := ih hs
    exact ⟨h.1, hd.trans h.2⟩

theorem listMin_none : ∀ {l : List Nat}, listMin l = none → l = []
  | [], _ => rfl
  | a :: r, h => by simp only [listMin] at h; split at h <;> simp at h

theorem listMin_le : ∀ {l : List Nat} {d : Nat}, listMin l = some d → ∀ x ∈ l, d ≤ x
  | a :: r, d, h, x, hx => by
    rw [listMin] at h
    cases hr : listMin r with
    | none =>
      rw [listMin_none hr, List.mem_singleton] at hx
      simp only [hr, Option.some.injEq] at h
      omega
    | some b =>
      simp only [hr, Option.some.injEq] at h
      rcases List.mem_cons.1 hx with rfl | hx
      · omega
      · have := listMin_le hr x hx; omega

theorem moveTo_noOverdue {s : Driver.St} (t : Nat) (hs : NoOverdue s) (ht : ∀ x ∈ dues s, t ≤ x) :
    NoOverdue { s with now := max t s.now } :=
  fun x hx => Nat.max_le.2 ⟨ht x hx, hs x hx⟩

theorem runTimer_inv (c : Ctx) (s : Driver.St) (w : Which) (hs : SInv c s) :
    SInv c (runTimer c s w).1 ∧ Grows s (runTimer c s w).1 :=
  (runTimer_outcome False.elim w).inv hs

/-- running the clock keeps the invariant and never passes a timer without running it — with any amount of fuel -/
theorem advanceTo_inv (c : Ctx) (fuel : Nat) (s : Driver.St) (target : Nat) (hs : SInv c s) (hn : NoOverdue s) :
    SInv c (advanceTo c fuel s target).1 ∧ NoOverdue (advanceTo c fuel s target).1 := by
  induction fuel generalizing s with
  | zero => exact ⟨hs, hn⟩
  | succ f ih =>
    unfold advanceTo
    split
    · rename_i d hd
      split
      · have h1 := runTimer_inv c { s with now := max d s.now } (firstAt s d) hs
        exact ih _ h1.1 (h1.2.noOverdue (moveTo_noOverdue d hn (listMin_le hd)))
      · exact ⟨hs,
          moveTo_noOverdue target hn fun x hx => Nat.le_trans (by omega) (listMin_le hd x hx)⟩
    · rename_i hd
      exact ⟨hs, moveTo_noOverdue target hn fun x hx => by
        rw [show dues s = [] from listMin_none hd] at hx; cases hx⟩

theorem step_inv (c : Ctx) (s : Driver.St) (op : Op) (hs : SInv c s) (hn : NoOverdue s) :
    SInv c (step c s op).1 ∧ NoOverdue (step c s op).1 := by
  rcases step_cases False.elim s op with ⟨dt, h⟩ | ⟨w, h⟩ | ⟨r, ok, hr, h⟩ <;> rw [h]
  · exact advanceTo_inv c _ s _ hs hn
  · rcases fire_cases c s w with hf | ⟨d, hd, hf⟩ <;> rw [hf]
    · exact ⟨hs, hn⟩
    · have h1 := runTimer_inv c { s with now := max d s.now } w hs
      exact ⟨h1.1, h1.2.noOverdue (moveTo_noOverdue d hn (listMin_le hd))⟩
  · have h0 := hr.inv hs
    have h1 := (fireTd_outcome c False r.1).inv h0.1
    have h2 := (fireLim_outcome c False _).inv h1.1
    exact ⟨h2.1, h2.2.noOverdue (h1.2.noOverdue (h0.2.noOverdue hn))⟩

end MpfVerif.C08
