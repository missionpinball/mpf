import MpfVerif.Model.ClockGen
import MpfVerif.Lemmas.DelayGen
/-!
# The periodic part of the hand model does what the generated `clock.py` programs do (C13)

One lemma per translated method of `Gen/ClockOps.lean`: what it returns, what it leaves in the object's attributes and which
calls it makes on the loop, started on `taskHeap p`.
-/
namespace MpfVerif.Delay
open MpfVerif.Py MpfVerif.Gen.ClockOps

attribute [local simp] execDS execDL evalD evalA evalE evalC evalDArgs evalDList bindMany bindTarget List.lookup dropL
  argLocals_apply ok_bind pure_eq_ok resOf callD callCb

/-- the loop, `callable()` and `cancel()` of a handle do not raise; `loop.time()` answers `now`; a callback is callable.
What the periodic *callback* answers is left open (`ora (tickEff cb)`). -/
def ClockOraOk (ora : DOracle) (now : Nat) : Prop :=
  (∀ args, ora ⟨"loop", "call_at", args⟩ = .ok .none) ∧
  (∀ args, ora ⟨"loop", "time", args⟩ = .ok (.flt now)) ∧
  (∀ args, ora ⟨"builtins", "callable", args⟩ = .ok (.bool true)) ∧
  (∀ args, ora ⟨"event", "cancel", args⟩ = .ok .none)

section
variable {ora : DOracle} {now : Nat} (h : ClockOraOk ora now) (args : List (String × PyVal))
include h
theorem ClockOraOk.call_at : ora ⟨"loop", "call_at", args⟩ = .ok .none := h.1 args
theorem ClockOraOk.time : ora ⟨"loop", "time", args⟩ = .ok (.flt now) := h.2.1 args
theorem ClockOraOk.callable : ora ⟨"builtins", "callable", args⟩ = .ok (.bool true) := h.2.2.1 args
theorem ClockOraOk.cancel : ora ⟨"event", "cancel", args⟩ = .ok .none := h.2.2.2 args
end

theorem execCb_id (c : Ctx) (ora : DOracle) (prog : List Py.DSt) : ∀ (H : Dict) (l : Locals),
    execCb c ora id prog H l = execDL c ora H l prog := by
  induction prog with
  | nil => intro H l; simp [execCb, execDL]
  | cons s rest ih =>
    intro H l
    simp only [execCb, execDL]
    rcases execDS c ora H l s with ⟨H', log, r⟩
    rcases r with x | (l' | v)
    · rfl
    · simp only [id, ite_self]; rw [ih]
    · rfl

/-- `taskHeap` over `Int` fields: `_last_call + _interval` is computed on the `Int`s the attributes hold, so the access
lemmas are stated there; `taskHeap p` is the instance with the casts of `p`'s `Nat` fields (`taskHeap_raw`) -/
def rawHeap (cn : Bool) (iv : Int) (cb lp : PyVal) (last : Int) : Dict :=
  [(.str "_canceled", [.bool cn]), (.str "_interval", [.flt iv]), (.str "_callback", [cb]),
   (.str "_loop", [lp]), (.str "_last_call", [.flt last])]

def callAtI (when : Int) : Eff := ⟨"loop", "call_at", [("when", .flt when), ("callback", .str "cb:_run")]⟩

theorem taskHeap_raw (p : Per) : taskHeap p = rawHeap p.canceled p.interval (.int p.cb) (.str "loop") p.last := rfl

theorem callAt_I (n : Nat) : callAt n = callAtI n := rfl

section
variable (cn : Bool) (iv : Int) (cb lp : PyVal) (last : Int)

@[simp] theorem rawHeap_canceled : dictFind (rawHeap cn iv cb lp last) (.str "_canceled") = some [.bool cn] := by
  simp [rawHeap, dictFind]

@[simp] theorem rawHeap_interval : dictFind (rawHeap cn iv cb lp last) (.str "_interval") = some [.flt iv] := by
  simp [rawHeap, dictFind]

@[simp] theorem rawHeap_callback : dictFind (rawHeap cn iv cb lp last) (.str "_callback") = some [cb] := by
  simp [rawHeap, dictFind]

@[simp] theorem rawHeap_last : dictFind (rawHeap cn iv cb lp last) (.str "_last_call") = some [.flt last] := by
  simp [rawHeap, dictFind]

@[simp] theorem rawHeap_set_last (x : Int) :
    Py.dictSet (rawHeap cn iv cb lp last) (.str "_last_call") [.flt x] = rawHeap cn iv cb lp x := by
  simp [rawHeap, Py.dictSet]

@[simp] theorem rawHeap_set_canceled (b : Bool) :
    Py.dictSet (rawHeap cn iv cb lp last) (.str "_canceled") [.bool b] = rawHeap b iv cb lp last := by
  simp [rawHeap, Py.dictSet]

end

@[simp] theorem arith_flt (x y : Int) : arith false (.flt x) (.flt y) = .ok (.flt (x + y)) := by
  simp [arith, PyVal.num]

/-! One lemma per method: what it returns, what it leaves in the attributes, which calls it makes on the loop. -/
section
variable (c : Ctx) (ora : DOracle)


theorem cancel_call (p : Per) :
    callD c ora (taskHeap p) cancel [] = (taskHeap { p with canceled := true }, [], .ok .none) := by
  simp [cancel, taskHeap_raw]

theorem next_call_time_call (p : Per) :
    callD c ora (taskHeap p) get_next_call_time [] = (taskHeap p, [], .ok (.flt p.due)) := by
  simp [get_next_call_time, taskHeap_raw, Per.due]

/-- … of a cancelled task (a handle that was already in the loop when `cancel()` came): `_last_call` moves on, nothing is
called, nothing is asked of the loop — the task is never heard of again -/
theorem run_canceled (p : Per) (k : Dict → Dict) (hc : p.canceled = true) :
    callCb c ora k (taskHeap p) p_run [] = (taskHeap { p with last := p.last + p.interval }, [], .ok .none) := by
  simp [p_run, taskHeap_raw, hc, execCb, isCallbackCall, PyVal.truthy]

/-- … with a callback that raises: the exception is passed on to the loop after `_last_call` moved on, and the task is NOT
rescheduled -/
theorem run_raises (p : Per) (k : Dict → Dict) (x : Err) (hc : p.canceled = false) (hcb : ora (tickEff p.cb) = .error x) :
    callCb c ora k (taskHeap p) p_run [] = (taskHeap { p with last := p.last + p.interval }, [tickEff p.cb], .error x) := by
  simp only [tickEff] at hcb
  simp [p_run, taskHeap_raw, hc, tickEff, execCb, isCallbackCall, PyVal.truthy, hcb]

variable {now : Nat} (ho : ClockOraOk ora now)
include ho

theorem schedule_raw (cn : Bool) (iv last : Int) (cb lp : PyVal) (l : Locals) :
    dropL (execDL c ora (rawHeap cn iv cb lp last) l p_schedule) =
      (rawHeap cn iv cb lp last, if cn then [] else [callAtI (last + iv)], .ok (if cn then some .none else none)) := by
  cases cn <;> simp [p_schedule, callAtI, PyVal.truthy, ho.call_at]

/-- `PeriodicTask.__init__(interval, loop, callback)` on a new object (no attributes yet) at `now` -/
theorem init_run (l : Locals) (iv cb pid : Nat) (h1 : l "interval" = .flt iv) (h2 : l "loop" = .str "loop")
    (h3 : l "callback" = .int cb) :
    dropL (execDL c ora [] l p_init) =
      (taskHeap (newPer pid iv cb now), [timeEff, callAt (now + iv)], .ok none) := by
  obtain ⟨l1, hs⟩ := dropL_next (r := execDL c ora (rawHeap false iv (.int cb) (.str "loop") now) (argLocals []) p_schedule)
    (by simpa using schedule_raw c ora ho false iv now (.int cb) (.str "loop") (argLocals []))
  simp only [rawHeap] at hs
  simp [p_init, taskHeap, newPer, timeEff, Py.dictSet, h1, h2, h3, ho.time, hs, callAt_I, callAtI]

/-- `PeriodicTask._run()` of a task that is not cancelled, with a callback that returns: `_last_call` moves on by exactly one
interval (whatever `loop.time()` is — it is not even asked), the callback is called, and then — on the attributes as the
callback left them (`k`: here it may have cancelled the task, `c2`) — `_schedule` asks the loop for the next run at the new
`_last_call + _interval`, unless the task is cancelled now. -/
theorem run_run (p : Per) (hc : p.canceled = false) (v : PyVal) (k : Dict → Dict) (c2 : Bool)
    (hcb : ora (tickEff p.cb) = .ok v) (hk : k (taskHeap (bumpPer p)) = taskHeap { bumpPer p with canceled := c2 }) :
    callCb c ora k (taskHeap p) p_run [] =
      (taskHeap { bumpPer p with canceled := c2 }, tickEff p.cb :: handSchedule { bumpPer p with canceled := c2 },
        .ok .none) := by
  -- whether `_schedule` returns or falls through (`o`) does not matter to its caller
  obtain ⟨o, hs⟩ := dropL_ok
    (schedule_raw c ora ho c2 p.interval (p.last + p.interval) (.int p.cb) (.str "loop") (argLocals []))
  simp only [taskHeap_raw, bumpPer, hc, Int.natCast_add] at hk ⊢
  simp only [tickEff] at hcb
  simp [p_run, tickEff, execCb, isCallbackCall, PyVal.truthy, hcb, hk, hs]
  cases o <;> cases c2 <;> simp [handSchedule, Per.due, callAt_I, callAtI]

/-- `ClockBase.schedule_once(callback, timeout)`: one `loop.call_later(delay=timeout, callback=callback)`, whose handle is
returned — the effect `clock.schedule_once` of `Model/DelayGen.lean` is this call -/
theorem schedule_once_call (cb t h : PyVal) (hh : ora (callLater t cb) = .ok h) :
    callD c ora [] schedule_once [("callback", cb), ("timeout", t)] = ([], [callableEff cb, callLater t cb], .ok h) := by
  simp only [callLater] at hh
  simp [schedule_once, callableEff, callLater, PyVal.truthy, ho.callable, hh]

/-- `ClockBase.unschedule(event)`: `event.cancel()` (a loop handle or a PeriodicTask — for the latter `cancel_call`) -/
theorem unschedule_call (ev : PyVal) (H : Dict) :
    callD c ora H unschedule [("event", ev)] = (H, [cancelEff ev], .ok .none) := by
  simp [unschedule, cancelEff, ho.cancel]

theorem schedule_interval_call (iv cb pid : Nat) :
    callD c ora [] schedule_interval [("callback", .int cb), ("timeout", .flt iv)] =
      (taskHeap (newPer pid iv cb now), [callableEff (.int cb), timeEff, callAt (now + iv)], .ok (.str "obj:PeriodicTask")) := by
  obtain ⟨l1, hi⟩ := dropL_next (init_run c ora ho
    (argLocals [("interval", .flt iv), ("loop", .str "loop"), ("callback", .int cb)]) iv cb pid
    (by simp) (by simp) (by simp))
  simp [schedule_interval, callableEff, PyVal.truthy, ho.callable, hi]

end

theorem schedule_run (c : Ctx) (ora : DOracle) (now : Nat) (ho : ClockOraOk ora now) (p : Per) (l : Locals) :
    dropL (execDL c ora (taskHeap p) l p_schedule) =
      (taskHeap p, handSchedule p, .ok (if p.canceled then some .none else none)) := by
  rw [taskHeap_raw, schedule_raw c ora ho]
  cases hc : p.canceled <;> simp [handSchedule, hc, callAt_I, Per.due]

end MpfVerif.Delay
