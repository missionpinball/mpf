import MpfVerif.Model.Game
import MpfVerif.Lemmas.Ite
/-! # Lemmas for C06: what one resumption of the game coroutine does; invariants over op sequences -/
namespace MpfVerif.Game

/-- the follow relation of the lifecycle grammar
`game_will_start game_starting (game_started turn*)? game_will_end game_ending game_ended` (a game that is ended
while it is starting ends without having started),
`turn = player_turn_will_start player_turn_starting player_turn_started ball* player_turn_will_end .._ending .._ended`,
`ball = ball_will_start ball_starting ball_started ball_will_end ball_ending ball_ended` -/
def follows : Ev → Ev → Bool
  | .gws, .gsg | .gsg, .gsd | .gsg, .gwe | .gsd, .ptws | .gsd, .gwe => true
  | .ptws, .ptsg | .ptsg, .ptsd | .ptsd, .bws | .ptsd, .ptwe => true
  | .bws, .bsg | .bsg, .bsd | .bsd, .bwe | .bwe, .beg | .beg, .bed => true
  | .bed, .bws | .bed, .ptwe | .ptwe, .pteg | .pteg, .pted => true
  | .pted, .ptws | .pted, .gwe | .gwe, .geg | .geg, .ged => true
  | _, _ => false

def tr (st : St) : List Ev := st.log.map (·.1)

def startOk : Option Ev → Ev → Bool
  | none, e => e == .gws
  | some .ged, e => e == .gws          -- a new game after the previous one ended
  | some .abt, e => e == .gws          -- ... or was stopped from outside
  | some p, e => e == .abt || follows p e   -- the mode may be stopped from outside at any point of a running game

def okFrom : Option Ev → List Ev → Bool
  | _, [] => true
  | prev, e :: r => startOk prev e && okFrom (some e) r

def lastOf : Option Ev → List Ev → Option Ev
  | p, [] => p
  | _, e :: r => lastOf (some e) r

theorem okFrom_snoc (p : Option Ev) (l : List Ev) (e : Ev) :
    okFrom p (l ++ [e]) = (okFrom p l && startOk (lastOf p l) e) := by
  induction l generalizing p with
  | nil => simp [okFrom, lastOf]
  | cons x r ih => simp [okFrom, lastOf, ih, Bool.and_assoc]

theorem lastOf_snoc (p : Option Ev) (l : List Ev) (e : Ev) : lastOf p (l ++ [e]) = some e := by
  induction l generalizing p with
  | nil => simp [lastOf]
  | cons x r ih => simp [lastOf, ih]

theorem startOk_of_follows {p e : Ev} (h : follows p e = true) : startOk (some p) e = true := by
  cases p
  case ged | abt => cases h
  all_goals simp [startOk, h]

@[simp] theorem emit_pc (st : St) (e : Ev) : (emit st e).pc = some e := rfl
@[simp] theorem emit_tr (st : St) (e : Ev) : tr (emit st e) = tr st ++ [e] := by simp [tr, emit]
@[simp] theorem emit_bip (st : St) (e : Ev) : (emit st e).bip = st.bip := rfl
@[simp] theorem emit_known (st : St) (e : Ev) : (emit st e).known = st.known := rfl
@[simp] theorem emit_ending (st : St) (e : Ev) : (emit st e).ending = st.ending := rfl

theorem setBipTo_le (st : St) (v : Int) : (setBipTo st v).bip ≤ st.known := by
  simp only [setBipTo]
  split
  · exact Nat.le_refl _
  · split
    · exact Nat.zero_le _
    · omega

@[simp] theorem setBipTo_known (st : St) (v : Int) : (setBipTo st v).known = st.known := rfl
@[simp] theorem setBipTo_pc (st : St) (v : Int) : (setBipTo st v).pc = st.pc := rfl
@[simp] theorem setBipTo_ending (st : St) (v : Int) : (setBipTo st v).ending = st.ending := rfl
@[simp] theorem setBipTo_tr (st : St) (v : Int) : tr (setBipTo st v) = tr st := rfl

theorem setBipTo_endEv (st : St) (v : Int) :
    (setBipTo st v).endEv = (st.endEv || (decide (st.bip > 0) && decide ((setBipTo st v).bip = 0))) := rfl

@[simp] theorem setAt_self (f : Nat → Nat) (i v : Nat) : setAt f i v i = v := if_pos rfl
theorem setAt_of_ne (f : Nat → Nat) {i j : Nat} (v : Nat) (h : j ≠ i) : setAt f i v j = f j := if_neg h

theorem start_enabled {st : St} (h : st.pc = none) : ∃ st2, step st .start = some st2 ∧ tr st2 = tr st ++ [.gws] :=
  ⟨_, if_neg (t := none) (by simp [h]), emit_tr ..⟩

theorem run_inv {I : St → Prop} (hstep : ∀ st st' op, I st → step st op = some st' → I st') :
    ∀ (ops : List Op) (st : St), I st → I (run st ops)
  | [], _, h => h
  | op :: r, st, h => by
    unfold run
    cases hs : step st op with
    | none => exact run_inv hstep r st h
    | some st' => exact run_inv hstep r st' (hstep st st' op h hs)

/-- One resumption from the awaited event `p`, by the code it runs: a plain post; `_start_player_turn`; the end of the
game after the last turn or, once `ending` is set, in the middle of a round; `_run_ball` for the first ball of a turn
or an extra ball; `balls_in_play = 1` (written field by field: projections of `setBipTo st 1` are slow to reduce); the
end of a ball. -/
inductive Resumed (st : St) : Ev → St → Prop
  | post {p e} : follows p e = true → e ≠ .ptws ∧ e ≠ .bws ∧ e ≠ .bwe → (e = .gsd → st.players ≠ 0) →
      Resumed st p (emit st e)
  | firstTurn {c} : st.ending = false → c = (if st.cur = 0 then 1 else st.cur) →
      Resumed st .gsd (emit { st with cur := c, balls := setAt st.balls c (st.balls c + 1) } .ptws)
  | nextTurn {c} : st.ending = false → ¬(st.balls st.cur ≥ st.bpg ∧ st.cur = st.players) →
      c = (if st.cur < st.players then st.cur + 1 else 1) →
      Resumed st .pted (emit { st with cur := c, balls := setAt st.balls c (st.balls c + 1) } .ptws)
  | lastTurn : Resumed st .pted (emit { st with ending := true } .gwe)
  | cutShort : st.ending = true →
      Resumed st .pted (emit { st with cur := if st.cur < st.players then st.cur + 1 else 1 } .gwe)
  | firstBall : st.ending = false → Resumed st .ptsd (startBall st true)
  | extraBall : st.extra st.cur > 0 → st.slam = false → st.ending = false →
      Resumed st .bed (startBall { st with extra := setAt st.extra st.cur (st.extra st.cur - 1) } false)
  | inPlay : Resumed st .bsg (emit { st with bip := (setBipTo st 1).bip, endEv := (setBipTo st 1).endEv } .bsd)
  | ballOver : st.endEv = true → Resumed st .bsd (emit { st with bip := 0 } .bwe)

theorem resumed_of_resume {st st' : St} (h : resume st = some st') :
    st.pendAdds = 0 ∧ ∃ p, st.pc = some p ∧ Resumed st p st' := by
  -- `split at h` on the outer `if` would carry the whole match into both branches
  have hq : ¬st.pendAdds > 0 := fun hq => by rw [resume, if_pos hq] at h; cases h
  refine ⟨by omega, ?_⟩
  cases hp : st.pc with
  | none => rw [resume, if_neg hq, hp] at h; cases h
  | some p =>
    refine ⟨p, rfl, ?_⟩
    rw [resume, if_neg hq, hp] at h
    cases p
    case ged | abt => cases h
    case gsg =>
      rcases of_ite_eq h with ⟨_, h⟩ | ⟨_, h⟩
      · cases (of_when h).2; exact .post rfl (by decide) nofun
      · rcases of_ite_eq h with ⟨_, h⟩ | ⟨h0, h⟩
        · cases (of_when h).2; exact .post rfl (by decide) nofun
        · cases h; exact .post rfl (by decide) (fun _ => h0)
    case gsd =>
      cases h
      unfold loopCheck
      split
      · exact .post rfl (by decide) nofun
      · exact .firstTurn ((Bool.not_eq_true _).mp ‹_›) rfl
    case ptsd =>
      cases h
      split
      · unfold extraCheck
        rw [if_neg (by simp [*])]
        exact .post rfl (by decide) nofun
      · exact .firstBall ((Bool.not_eq_true _).mp ‹_›)
    case bsg => cases h; exact .inPlay
    case bsd => obtain ⟨hv, h⟩ := of_when h; cases h; exact .ballOver hv
    case bed =>
      cases h
      unfold extraCheck
      split
      · rename_i hx
        simp only [Bool.and_eq_true, Bool.not_eq_eq_eq_not, Bool.not_true, decide_eq_true_eq] at hx
        exact .extraBall hx.1.1 hx.1.2 hx.2
      · exact .post rfl (by decide) nofun
    case pted =>
      rcases of_ite_eq h with ⟨_, h⟩ | ⟨hl, h⟩ <;> cases h
      · exact .lastTurn
      · unfold loopCheck
        by_cases he : st.ending = true
        · rw [if_pos he]; exact .cutShort he
        · rw [if_neg he]
          have hr : (if st.cur < st.players then st.cur + 1 else 1) ≠ 0 := by split <;> omega
          refine .nextTurn ((Bool.not_eq_true _).mp he) (fun hx => hl ?_) (if_neg hr)
          simp only [Bool.or_eq_true, Bool.and_eq_true, decide_eq_true_eq]; exact .inr hx
    all_goals cases h; exact .post rfl (by decide) nofun

structure Posted (st st' : St) (p e : Ev) : Prop where
  pc : st.pc = some p
  pc' : st'.pc = some e
  tr : tr st' = tr st ++ [e]
  follows : follows p e = true
  bwe : e = .bwe → st.endEv = true
  ending : st.ending = true → e ≠ .bws ∧ st'.ending = true
  known : st'.known = st.known
  bip : st.bip ≤ st.known → st'.bip ≤ st'.known

theorem resume_spec (st st' : St) (h : resume st = some st') : ∃ p e, Posted st st' p e := by
  obtain ⟨-, p, hp, hr⟩ := resumed_of_resume h
  refine ⟨p, ?_⟩
  cases hr with
  | post hf hx _ => exact ⟨_, hp, rfl, emit_tr .., hf, fun h => absurd h hx.2.2, fun he => ⟨hx.2.1, he⟩, rfl, id⟩
  | firstTurn | nextTurn | cutShort => exact ⟨_, hp, rfl, emit_tr .., rfl, nofun, fun he => ⟨nofun, he⟩, rfl, id⟩
  | lastTurn => exact ⟨_, hp, rfl, emit_tr .., rfl, nofun, fun _ => ⟨nofun, rfl⟩, rfl, id⟩
  | firstBall hn | extraBall _ _ hn =>
    exact ⟨_, hp, rfl, emit_tr .., rfl, nofun, fun he => absurd (he.symm.trans hn) nofun, rfl, id⟩
  | inPlay => exact ⟨_, hp, rfl, emit_tr .., rfl, nofun, fun he => ⟨nofun, he⟩, rfl, fun _ => setBipTo_le st 1⟩
  | ballOver hv => exact ⟨_, hp, rfl, emit_tr .., rfl, fun _ => hv, fun he => ⟨nofun, he⟩, rfl, fun _ => Nat.zero_le _⟩

theorem resume_fixed {st st' : St} (h : resume st = some st') :
    st'.bpg = st.bpg ∧ st'.maxPlayers = st.maxPlayers ∧ st'.slam = st.slam := by
  obtain ⟨-, p, -, hr⟩ := resumed_of_resume h
  cases hr <;> exact ⟨rfl, rfl, rfl⟩

/-- what the tilt mode's requests leave alone: everything but `tilted`, `slam`, the end-of-ball event and the warnings
(`checked` and `warnTo`, which they do not touch either, are not listed) -/
structure Frame (st st' : St) : Prop where
  pc : st'.pc = st.pc
  log : st'.log = st.log
  bip : st'.bip = st.bip
  known : st'.known = st.known
  bpg : st'.bpg = st.bpg
  balls : st'.balls = st.balls
  cur : st'.cur = st.cur
  players : st'.players = st.players
  pend : st'.pendAdds = st.pendAdds
  started : st'.started = st.started
  extra : st'.extra = st.extra
  firstBalls : st'.firstBalls = st.firstBalls
  awarded : st'.awarded = st.awarded
  ending : st'.ending = st.ending
  maxPlayers : st'.maxPlayers = st.maxPlayers

theorem Frame.trans {a b c : St} (f : Frame a b) (g : Frame b c) : Frame a c := by
  cases f; cases g; constructor <;> simp only [*]

theorem tiltNow_frame (st : St) : Frame st (tiltNow st) := by
  unfold tiltNow
  split <;> constructor <;> rfl

theorem tiltWarn_frame (st : St) : Frame st (tiltWarn st) := by
  unfold tiltWarn
  split
  · constructor <;> rfl
  · split
    · exact .trans (by constructor <;> rfl) (tiltNow_frame _)
    · constructor <;> rfl

theorem tilt_steps_frame (st st' : St) (op : Op)
    (hop : op = .tilt ∨ op = .slamTilt ∨ op = .tiltWarn ∨ op = .warnReset ∨ op = .tiltClear)
    (h : step st op = some st') : Frame st st' := by
  rcases hop with rfl | rfl | rfl | rfl | rfl
  · cases (of_unless h).2; exact tiltNow_frame st
  · cases (of_unless h).2; exact .trans (by constructor <;> rfl) (tiltNow_frame _)
  · cases (of_unless h).2; exact tiltWarn_frame st
  · rcases of_ite_eq (of_unless h).2 with ⟨_, h⟩ | ⟨_, h⟩ <;> cases h <;> constructor <;> rfl
  · cases (of_unless h).2; constructor <;> rfl

def pcOk (st : St) : Prop :=
  match st.pc with
  | some e => lastOf none (tr st) = some e
  | none => lastOf none (tr st) = none ∨ lastOf none (tr st) = some .ged ∨ lastOf none (tr st) = some .abt

/-- the trace obeys the grammar, the awaited event is its last one, balls_in_play is within bounds -/
structure GInv (st : St) : Prop where
  chain : okFrom none (tr st) = true
  pc : pcOk st
  bip : st.bip ≤ st.known

theorem ginv_env {st st' : St} (hI : GInv st) (ht : tr st' = tr st) (hpc : st'.pc = st.pc) (hb : st'.bip ≤ st'.known) :
    GInv st' := by
  refine ⟨ht ▸ hI.chain, ?_, hb⟩
  have := hI.pc
  unfold pcOk at *
  rw [hpc, ht]
  exact this

theorem ginv_post {st st' : St} {e : Ev} (hI : GInv st) (ht : tr st' = tr st ++ [e])
    (hok : startOk (lastOf none (tr st)) e = true) (hpc : st'.pc = some e ∨ st'.pc = none ∧ e = .abt)
    (hb : st'.bip ≤ st'.known) : GInv st' := by
  refine ⟨by rw [ht, okFrom_snoc, hI.chain, hok]; rfl, ?_, hb⟩
  unfold pcOk
  rw [ht, lastOf_snoc]
  rcases hpc with h | ⟨h, rfl⟩ <;> rw [h]
  exact .inr (.inr rfl)

theorem step_ginv (st st' : St) (op : Op) (hI : GInv st) (h : step st op = some st') : GInv st' := by
  have hl := hI.pc
  unfold pcOk at hl
  cases op
  case start =>
    obtain ⟨hn, h⟩ := of_unless h
    cases h
    cases hp : st.pc
    case some => simp [hp] at hn
    rw [hp] at hl
    refine ginv_post hI (emit_tr ..) ?_ (.inl rfl) (Nat.zero_le _)
    rcases hl with hl | hl | hl <;> rw [hl] <;> rfl
  case resume =>
    obtain ⟨p, e, hs⟩ := resume_spec st st' h
    rw [hs.pc] at hl
    exact ginv_post hI hs.tr (hl ▸ startOk_of_follows hs.follows) (.inl hs.pc') (hs.bip hI.bip)
  case abort =>
    obtain ⟨hn, h⟩ := of_unless h
    cases h
    cases hp : st.pc
    case none => simp [hp] at hn
    rename_i p
    rw [hp] at hl
    refine ginv_post hI (e := .abt) (by simp [tr]) ?_ (.inr ⟨rfl, rfl⟩) hI.bip
    rw [hl]
    cases p
    case ged | abt => simp [hp] at hn
    all_goals rfl
  case finish =>
    obtain ⟨hg, h⟩ := of_when h
    cases h
    rw [hg] at hl
    exact ⟨hI.chain, .inr (.inl hl), hI.bip⟩
  case setBip n => cases (of_unless h).2; exact ginv_env hI rfl rfl (setBipTo_le st n)
  case drain n =>
    cases (of_when h).2
    split
    · exact hI
    · exact ginv_env hI rfl rfl (setBipTo_le st _)
  case setKnown n =>
    obtain ⟨hn, h⟩ := of_when h
    cases h
    exact ginv_env hI rfl rfl (Nat.le_trans hI.bip hn)
  case tilt | slamTilt | tiltWarn | warnReset | tiltClear =>
    have f := tilt_steps_frame st st' _ (by simp) h
    exact ginv_env hI (congrArg (List.map _) f.log) f.pc (f.bip ▸ f.known ▸ hI.bip)
  case addPlayer =>
    rcases of_ite_eq (of_unless h).2 with ⟨_, h⟩ | ⟨_, h⟩ <;> cases h <;> exact ginv_env hI rfl rfl hI.bip
  case startCheck | config => cases (of_when h).2; exact ginv_env hI rfl rfl hI.bip
  case endBall | endGame | slam | extraBall | addAccepted | addRejected | playerAdded | addVetoed =>
    cases (of_unless h).2; exact ginv_env hI rfl rfl hI.bip

/-- no game yet: balls_per_game `b`, max_players `m`, num_balls_known `k` -/
def start0 (b m k : Nat) : St := { bpg := b, maxPlayers := m, known := k }

theorem start0_inv (b m k : Nat) : GInv (start0 b m k) := ⟨rfl, .inl rfl, Nat.zero_le _⟩

def pre (pc : Option Ev) : Prop := pc = some .gws ∨ pc = some .gsg ∨ pc = some .gsd

def inTurn (pc : Option Ev) : Prop :=
  pc = some .ptws ∨ pc = some .ptsg ∨ pc = some .ptsd ∨ pc = some .bws ∨ pc = some .bsg ∨ pc = some .bsd ∨
  pc = some .bwe ∨ pc = some .beg ∨ pc = some .bed ∨ pc = some .ptwe ∨ pc = some .pteg ∨ pc = some .pted

/-- 0 while the game starts (`pre`), 1 during the turns (`inTurn`), 2 while the game ends or there is none -/
def phase : Option Ev → Nat
  | some .gws | some .gsg | some .gsd => 0
  | some .ptws | some .ptsg | some .ptsd | some .bws | some .bsg | some .bsd
  | some .bwe | some .beg | some .bed | some .ptwe | some .pteg | some .pted => 1
  | _ => 2

theorem pre_iff (pc : Option Ev) : pre pc ↔ phase pc = 0 := by
  constructor
  · rintro (h | h | h) <;> subst h <;> rfl
  -- per case of `phase`: `pc` is one of the events, or `h` equates two numerals
  · fun_cases phase pc <;> intro h <;> first | (unfold pre; decide) | cases h

theorem inTurn_iff (pc : Option Ev) : inTurn pc ↔ phase pc = 1 := by
  constructor
  · rintro (h | h | h | h | h | h | h | h | h | h | h | h) <;> subst h <;> rfl
  · fun_cases phase pc <;> intro h <;> first | (unfold inTurn; decide) | cases h

theorem follows_phase {p e : Ev} (h : follows p e = true) :
    e ≠ .ptws → phase (some e) = phase (some p) ∨ phase (some e) = 2 := by
  unfold follows at h
  -- the 23 pairs of `follows`, each a closed fact; in the fall-through `h` is `false = true`
  split at h <;> first | decide | cases h

/-- Before the first turn nobody has a ball number; during the turns all players up to the current one are on the
current player's ball, all later ones on the ball before (players join only while that is ball 0) — and nobody is ever
beyond balls_per_game. -/
structure BInv (st : St) : Prop where
  bpos : 1 ≤ st.bpg
  bound : ∀ p, st.balls p ≤ st.bpg
  beyond : ∀ p, p > st.players → st.balls p = 0
  preA : pre st.pc → (∀ p, st.balls p = 0) ∧ st.cur = (if st.players = 0 then 0 else 1)
  preD : st.pc = some .gsd → st.players ≥ 1
  turnB : inTurn st.pc → 1 ≤ st.cur ∧ st.cur ≤ st.players ∧ 1 ≤ st.balls st.cur ∧
    (∀ p, 1 ≤ p → p ≤ st.cur → st.balls p = st.balls st.cur) ∧
    (∀ p, st.cur < p → p ≤ st.players → st.balls p = st.balls st.cur - 1)
  pend : st.pendAdds > 0 → ¬(st.cur ≠ 0 ∧ st.balls st.cur > 1)

theorem binv_keep {st st' : St} (hI : BInv st) (hbpg : st'.bpg = st.bpg) (hballs : st'.balls = st.balls)
    (hcur : st'.cur = st.cur) (hplayers : st'.players = st.players) (hpend : st'.pendAdds > 0 → st.pendAdds > 0)
    (hph : phase st'.pc = phase st.pc ∨ phase st'.pc = 2) (hd : st'.pc = some .gsd → st.players ≥ 1) :
    BInv st' := by
  refine ⟨hbpg ▸ hI.bpos, hbpg ▸ hballs ▸ hI.bound, hballs ▸ hplayers ▸ hI.beyond, ?_, ?_, ?_, ?_⟩
  · intro hp
    have := (pre_iff _).1 hp
    rw [hballs, hcur, hplayers]; exact hI.preA ((pre_iff _).2 (by omega))
  · intro hx; rw [hplayers]; exact hd hx
  · intro ht
    have := (inTurn_iff _).1 ht
    rw [hballs, hcur, hplayers]; exact hI.turnB ((inTurn_iff _).2 (by omega))
  · intro hx; rw [hballs, hcur]; exact hI.pend (hpend hx)

theorem binv_idle {s : St} (hph : phase s.pc = 2) (h1 : 1 ≤ s.bpg) (h2 : ∀ p, s.balls p ≤ s.bpg)
    (h3 : ∀ p, p > s.players → s.balls p = 0) (h4 : s.pendAdds > 0 → ¬(s.cur ≠ 0 ∧ s.balls s.cur > 1)) : BInv s :=
  ⟨h1, h2, h3, fun h => absurd ((pre_iff _).1 h) (by omega), fun hx => (nomatch (hx ▸ hph : phase (some .gsd) = 2)),
    fun h => absurd ((inTurn_iff _).1 h) (by omega), h4⟩

/-- `_start_player_turn`: player `c` is up for ball `n`, which those before him have had, those after him not -/
theorem binv_turn {st st' : St} {c n : Nat} (hI : BInv st) (hbpg : st'.bpg = st.bpg)
    (hballs : st'.balls = setAt st.balls c (st.balls c + 1)) (hcur : st'.cur = c) (hplayers : st'.players = st.players)
    (hpend : st'.pendAdds = 0) (hpc : st'.pc = some .ptws) (hc : 1 ≤ c ∧ c ≤ st.players) (hn : n ≤ st.bpg)
    (hcn : st.balls c + 1 = n) (hlt : ∀ p, 1 ≤ p → p < c → st.balls p = n)
    (hgt : ∀ p, c < p → p ≤ st.players → st.balls p + 1 = n) : BInv st' := by
  have hne : ∀ {p}, p ≠ c → st'.balls p = st.balls p := fun h => by rw [hballs, setAt_of_ne _ _ h]
  have hcb : st'.balls c = n := by rw [hballs, setAt_self, hcn]
  refine ⟨hbpg ▸ hI.bpos, fun p => ?_, fun p hp => ?_, fun h => ?_, fun h => ?_, fun _ => ?_, fun hx => by omega⟩
  · by_cases hpc : p = c
    · rw [hpc, hcb, hbpg]; exact hn
    · rw [hne hpc, hbpg]; exact hI.bound p
  · rw [hne (by omega)]; exact hI.beyond p (hplayers ▸ hp)
  · rw [hpc] at h; rcases h with h | h | h <;> cases h
  · rw [hpc] at h; cases h
  · rw [hcur, hplayers, hcb]
    refine ⟨hc.1, hc.2, by omega, fun p h1p hp => ?_, fun p hp hpp => ?_⟩
    · by_cases hpc : p = c
      · rw [hpc, hcb]
      · rw [hne hpc]; exact hlt p h1p (by omega)
    · rw [hne (by omega)]; have := hgt p hp hpp; omega

theorem binv_add {st st' : St} (hI : BInv st) (hbpg : st'.bpg = st.bpg) (hballs : st'.balls = st.balls)
    (hcur : st'.cur = (if st.cur = 0 then st.players + 1 else st.cur)) (hplayers : st'.players = st.players + 1)
    (hpc : st'.pc = st.pc)
    (hg : ¬(st.cur ≠ 0 ∧ st.balls st.cur > 1)) : BInv st' := by
  refine ⟨hbpg ▸ hI.bpos, hbpg ▸ hballs ▸ hI.bound, ?_, ?_, ?_, ?_, ?_⟩
  · intro p hp; rw [hballs]; rw [hplayers] at hp; exact hI.beyond p (by omega)
  · intro hph; rw [hpc] at hph
    obtain ⟨hz, hc⟩ := hI.preA hph
    refine ⟨by rw [hballs]; exact hz, ?_⟩
    rw [hcur, hplayers, hc]
    by_cases h0 : st.players = 0 <;> simp [h0]
  · intro _; rw [hplayers]; omega
  · intro hph; rw [hpc] at hph
    obtain ⟨hc1, hcp, hb1, hle, hgt⟩ := hI.turnB hph
    have hc0 : st.cur ≠ 0 := by omega
    have hb : st.balls st.cur = 1 := by
      have : ¬ st.balls st.cur > 1 := fun h => hg ⟨hc0, h⟩
      omega
    rw [hballs, hcur, hplayers, if_neg hc0]
    refine ⟨hc1, by omega, hb1, hle, ?_⟩
    intro p hp hpp
    by_cases hlast : p ≤ st.players
    · exact hgt p hp hlast
    · rw [hI.beyond p (by omega), hb]
  · intro _; rw [hballs, hcur]
    by_cases hc0 : st.cur = 0
    · rw [if_pos hc0]
      intro hx
      have hz : st.balls (st.players + 1) = 0 := hI.beyond _ (by omega)
      omega
    · rw [if_neg hc0]; exact hg

theorem resume_binv (st st' : St) (hI : BInv st) (h : resume st = some st') : BInv st' := by
  obtain ⟨hq, p, hp, hr⟩ := resumed_of_resume h
  cases hr with
  | post hf hx hd =>
    exact binv_keep hI rfl rfl rfl rfl id (hp ▸ follows_phase hf hx.1) fun he =>
      Nat.pos_of_ne_zero (hd (Option.some.inj he))
  | @firstTurn c _ hc =>
    obtain ⟨hz, hcur⟩ := hI.preA (.inr (.inr hp))
    have hpl := hI.preD hp
    have hc1 : st.cur = 1 := by rw [hcur, if_neg (by omega)]
    have hc : c = 1 := by rw [hc, hc1]; rfl
    subst hc
    exact binv_turn hI rfl rfl rfl rfl hq rfl ⟨Nat.le_refl _, hpl⟩ hI.bpos (by rw [hz]) (fun p _ _ => by omega)
      (fun p _ _ => by rw [hz])
  | nextTurn _ hl hc =>
    obtain ⟨hc1, hcp, hb1, hle, hgt⟩ := hI.turnB ((inTurn_iff _).2 (hp ▸ rfl))
    by_cases hlt : st.cur < st.players
    · rw [if_pos hlt] at hc
      subst hc
      have hnext := hgt (st.cur + 1) (Nat.lt_succ_self _) hlt
      exact binv_turn (n := st.balls st.cur) hI rfl rfl rfl rfl hq rfl ⟨Nat.le_add_left .., hlt⟩ (hI.bound _)
        (by omega) (fun p h1 h2 => hle p h1 (Nat.le_of_lt_succ h2))
        (fun p h1 h2 => by rw [hgt p (Nat.lt_of_succ_lt h1) h2]; omega)
    · rw [if_neg hlt] at hc
      subst hc
      have hce : st.cur = st.players := by omega
      exact binv_turn (n := st.balls st.cur + 1) hI rfl rfl rfl rfl hq rfl ⟨Nat.le_refl _, by omega⟩
        (Nat.lt_of_not_ge fun h => hl ⟨h, hce⟩) (by rw [hle 1 (Nat.le_refl _) hc1]) (fun p _ _ => by omega)
        (fun p h1 h2 => by rw [hle p (by omega) (by omega)])
  | lastTurn | cutShort => exact binv_idle rfl hI.bpos hI.bound hI.beyond fun hx => absurd hq (Nat.ne_of_gt hx)
  | firstBall | extraBall | inPlay | ballOver =>
    exact binv_keep hI rfl rfl rfl rfl id (.inl (hp ▸ rfl)) nofun

theorem step_binv (st st' : St) (op : Op) (hI : BInv st) (h : step st op = some st') : BInv st' := by
  have keep : ∀ {s : St}, s.bpg = st.bpg → s.balls = st.balls → s.cur = st.cur → s.players = st.players →
      s.pendAdds = st.pendAdds → s.pc = st.pc → BInv s := fun a b c d e f =>
    binv_keep hI a b c d (e ▸ id) (.inl (f ▸ rfl)) (f ▸ hI.preD)
  have addOk : ¬addRefused st = true → ¬(st.cur ≠ 0 ∧ st.balls st.cur > 1) := fun hr ⟨a, b⟩ =>
    hr (by simp [addRefused, a, b])
  cases op
  case start =>
    cases (of_unless h).2
    exact ⟨hI.bpos, fun _ => Nat.zero_le _, fun _ _ => rfl, fun _ => ⟨fun _ => rfl, rfl⟩, nofun,
      fun h => (nomatch (inTurn_iff _).1 h), nofun⟩
  case resume => exact resume_binv st st' hI h
  case addPlayer =>
    rcases of_ite_eq (of_unless h).2 with ⟨_, h⟩ | ⟨hr, h⟩ <;> cases h
    · exact hI
    · exact binv_add hI rfl rfl rfl rfl rfl (addOk hr)
  case addAccepted =>
    obtain ⟨hr, h⟩ := of_unless h
    cases h
    exact ⟨hI.bpos, hI.bound, hI.beyond, hI.preA, hI.preD, hI.turnB, fun _ => addOk fun hx => hr (by simp [hx])⟩
  case playerAdded =>
    obtain ⟨hr, h⟩ := of_unless h
    cases h
    have hpos : st.pendAdds > 0 := by
      simp only [Bool.or_eq_true, decide_eq_true_eq, not_or] at hr
      omega
    exact binv_add hI rfl rfl rfl rfl rfl (hI.pend hpos)
  case addVetoed =>
    cases (of_unless h).2
    exact binv_keep hI rfl rfl rfl rfl (fun hx => by simp only at hx; omega) (.inl rfl) hI.preD
  case finish =>
    cases (of_when h).2
    exact binv_idle rfl hI.bpos hI.bound hI.beyond hI.pend
  case abort =>
    cases (of_unless h).2
    exact binv_idle rfl hI.bpos hI.bound hI.beyond nofun
  case config b m =>
    obtain ⟨hg, h⟩ := of_when h
    cases h
    simp only [Bool.and_eq_true, decide_eq_true_eq] at hg
    have hpn : st.pc = none := by cases hx : st.pc <;> simp [hx] at hg ⊢
    exact binv_idle (hpn ▸ rfl) hg.2 (fun _ => Nat.zero_le _) (fun _ _ => rfl) fun _ hx => by simp at hx
  case tilt | slamTilt | tiltWarn | warnReset | tiltClear =>
    have f := tilt_steps_frame st st' _ (by simp) h
    exact keep f.bpg f.balls f.cur f.players f.pend f.pc
  case drain n =>
    cases (of_when h).2
    split
    · exact hI
    · exact keep rfl rfl rfl rfl rfl rfl
  case startCheck | setKnown => cases (of_when h).2; exact keep rfl rfl rfl rfl rfl rfl
  case endBall | endGame | slam | setBip | extraBall | addRejected =>
    cases (of_unless h).2; exact keep rfl rfl rfl rfl rfl rfl

theorem start0_binv (b m k : Nat) (hb : 1 ≤ b) : BInv (start0 b m k) :=
  binv_idle rfl hb (fun _ => Nat.zero_le _) (fun _ _ => rfl) nofun

/-- per player, in the current game: balls started + extra balls still pending = turns whose first ball started +
extra balls awarded -/
def Acc (st : St) : Prop := ∀ p, st.started p + st.extra p = st.firstBalls p + st.awarded p

theorem resume_acc (st st' : St) (hA : Acc st) (h : resume st = some st') : Acc st' := by
  obtain ⟨-, p, -, hr⟩ := resumed_of_resume h
  cases hr
  case firstBall =>
    intro q
    have := hA q
    by_cases hq : q = st.cur
    · subst hq; simp only [startBall, emit, if_true, setAt_self]; omega
    · simp only [startBall, emit, if_true, setAt_of_ne _ _ hq]; exact this
  case extraBall hx _ _ =>
    intro q
    have := hA q
    by_cases hq : q = st.cur
    · subst hq; simp only [startBall, emit, setAt_self, Bool.false_eq_true, if_false]; omega
    · simp only [startBall, emit, setAt_of_ne _ _ hq, Bool.false_eq_true, if_false]; exact this
  all_goals exact hA

theorem step_acc (st st' : St) (op : Op) (hA : Acc st) (h : step st op = some st') : Acc st' := by
  cases op
  case start => cases (of_unless h).2; exact fun _ => rfl
  case resume => exact resume_acc st st' hA h
  case extraBall =>
    cases (of_unless h).2
    intro q
    have := hA q
    by_cases hq : q = st.cur
    · subst hq; simp only [setAt_self]; omega
    · simp only [setAt_of_ne _ _ hq]; exact this
  case tilt | slamTilt | tiltWarn | warnReset | tiltClear =>
    have f := tilt_steps_frame st st' _ (by simp) h
    intro q
    rw [f.started, f.extra, f.firstBalls, f.awarded]
    exact hA q
  case addPlayer =>
    rcases of_ite_eq (of_unless h).2 with ⟨_, h⟩ | ⟨_, h⟩ <;> cases h <;> exact hA
  case drain n => cases (of_when h).2; split <;> exact hA
  case startCheck | finish | setKnown | config => cases (of_when h).2; exact hA
  case endBall | endGame | slam | setBip | addAccepted | addRejected | playerAdded | addVetoed | abort =>
    cases (of_unless h).2; exact hA

theorem tiltNow_slam (st : St) : (tiltNow st).slam = st.slam := by
  unfold tiltNow; split <;> rfl

theorem tiltWarn_slam (st : St) : (tiltWarn st).slam = st.slam := by
  unfold tiltWarn
  split
  · rfl
  · split
    · exact tiltNow_slam _
    · rfl

theorem step_slam (st st' : St) (op : Op) (hop : op ≠ .start) (hs : st.slam = true) (h : step st op = some st') :
    st'.slam = true := by
  cases op
  case start => exact absurd rfl hop
  case resume => exact (resume_fixed h).2.2.trans hs
  case tilt => cases (of_unless h).2; exact (tiltNow_slam _).trans hs
  case slamTilt => cases (of_unless h).2; exact tiltNow_slam _
  case tiltWarn => cases (of_unless h).2; exact (tiltWarn_slam _).trans hs
  case warnReset | addPlayer =>
    rcases of_ite_eq (of_unless h).2 with ⟨_, h⟩ | ⟨_, h⟩ <;> cases h <;> exact hs
  case slam => cases (of_unless h).2; rfl
  case drain n => cases (of_when h).2; split <;> exact hs
  case startCheck | finish | setKnown | config => cases (of_when h).2; exact hs
  case endBall | endGame | setBip | extraBall | addAccepted | addRejected | playerAdded | tiltClear | addVetoed | abort =>
    cases (of_unless h).2; exact hs

end MpfVerif.Game
