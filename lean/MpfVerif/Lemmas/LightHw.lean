import MpfVerif.Lemmas.Light
/-! C09: the hardware target sent by `_schedule_update` follows the stack although updates are skipped/suppressed. -/
namespace MpfVerif.Light

/-- target colour of the last fade sent to the hardware channels (off before anything was sent) -/
def sentTc (s : LSt) : RGB :=
  match s.last with
  | none => off
  | some t => t.tc

/-- every fade is over and no fade-out entry is left -/
def Quiet (now : Nat) (s : List Entry) : Prop := ∀ e ∈ s, e.destC.isSome = true ∧ (e.destT = 0 ∨ e.destT ≤ now)

instance (now : Nat) (s : List Entry) : Decidable (Quiet now s) := by unfold Quiet; exact inferInstance

theorem targetOf_head_opaque (e : Entry) (r : List Entry) (c : RGB) (h : e.destC = some c) :
    (targetOf (e :: r)).tc = c := by
  unfold targetOf
  split <;> simp [h, Target.tc]

theorem target_eq_color_of_quiet (now : Nat) (s : List Entry) (hq : Quiet now s) :
    (targetOf s).tc = getColor now s := by
  cases s with
  | nil => rfl
  | cons e r =>
    obtain ⟨hc, ht⟩ := hq e List.mem_cons_self
    obtain ⟨c, hc⟩ := Option.isSome_iff_exists.mp hc
    rw [targetOf_head_opaque e r c hc]
    simp only [getColor, ht, if_true, hc]

theorem targetOf_prefix (A X Y : List Entry) (h : A.all (·.destC.isNone) = false) :
    targetOf (A ++ X) = targetOf (A ++ Y) := by
  induction A with
  | nil => cases h
  | cons a A ih =>
    simp only [List.cons_append]
    unfold targetOf
    cases hc : a.destC with
    | some c => rfl
    | none =>
      rw [List.all_cons, hc] at h
      simp only [ih h]

theorem addStack_target_of_no_change (now : Nat) (c : RGB) (fade p k st : Nat) (s : List Entry)
    (h : topChanges p s = false) : (targetOf (addStack now c fade p k st s)).tc = (targetOf s).tc := by
  cases s with
  | nil => simp [topChanges] at h
  | cons e0 r =>
    obtain ⟨hp, hopq⟩ : ¬ e0.prio ≤ p ∧ e0.destC.isNone = false := by simpa [topChanges] using h
    obtain ⟨c0, hc⟩ : ∃ c0, e0.destC = some c0 := by
      cases hc : e0.destC with
      | none => simp [hc] at hopq
      | some c0 => exact ⟨c0, rfl⟩
    rw [targetOf_head_opaque e0 r c0 hc]
    unfold addStack
    split
    · exact targetOf_head_opaque e0 r c0 hc
    next hacc =>
      -- an opaque head of the same key and higher priority would have refused the command
      have hk : e0.key ≠ k := fun hk => by
        have hprio : prioFromKey k (e0 :: r) = e0.prio := by simp [prioFromKey, hk, hc]
        exact hacc ⟨List.cons_ne_nil _ _, hprio ▸ Nat.lt_of_not_le hp⟩
      have hrm : removeKey k (e0 :: r) = e0 :: removeKey k r := by simp [removeKey, hk]
      have hins (e : Entry) (he : e.prio = p) : insertE e (e0 :: removeKey k r) = e0 :: insertE e (removeKey k r) :=
        insertE_append e [e0] _ (List.forall_mem_singleton.mpr (by unfold abv; omega))
      rw [hrm]
      split <;> rw [hins _ rfl] <;> exact targetOf_head_opaque _ _ c0 hc

/-- `sent` compares target colours, not whole targets: that is all the two shortcuts of `_schedule_update` keep in
step.  `ghost`: every fade-out entry has its own pending removal delay, due at the end of its fade. -/
structure Inv (s : LSt) : Prop where
  sorted : SortedU s.stack
  sent : sentTc s = (targetOf s.stack).tc
  ghost : ∀ e ∈ s.stack, e.destC = none → (e.key, e.destT) ∈ s.timers

/-- what one step of the light emits: nothing, and `_last_fade_target` is untouched — or exactly one target, which is the
new `_last_fade_target` -/
def Emits (s : LSt) (r : LSt × List Target) : Prop :=
  (r.2 = [] ∧ r.1.last = s.last) ∨ ∃ t, r.2 = [t] ∧ r.1.last = some t

/-- The common tail of every operation: stack and delays have been edited, giving `s'`, and `_schedule_update` is called
unless (`b = false`) the operation has seen that the target cannot have changed. -/
theorem call_inv {s s' : LSt} (b : Bool) (h : Inv s) (hl : s'.last = s.last) (hs : SortedU s'.stack)
    (hg : ∀ e ∈ s'.stack, e.destC = none → (e.key, e.destT) ∈ s'.timers)
    (ht : b = false → (targetOf s'.stack).tc = (targetOf s.stack).tc) :
    Inv (if b = true then schedule s' else (s', [])).1 ∧ Emits s (if b = true then schedule s' else (s', [])) := by
  have hsent : sentTc s' = sentTc s := by simp only [sentTc, hl]
  cases b with
  | false => exact ⟨⟨hs, hsent.trans (h.sent.trans (ht rfl).symm), hg⟩, Or.inl ⟨rfl, hl⟩⟩
  | true =>
    rcases schedule_cases s' with ⟨e, l, hl', htc⟩ | e
    · simp only [if_true, e]
      exact ⟨⟨hs, by simp only [sentTc, hl', htc], hg⟩, Or.inl ⟨rfl, hl⟩⟩
    · simp only [if_true, e]
      exact ⟨⟨hs, rfl, hg⟩, Or.inr ⟨_, rfl, rfl⟩⟩

theorem stepColor_inv (s : LSt) (c : RGB) (fade p k st : Nat) (h : Inv s) :
    Inv (stepColor s c fade p k st).1 ∧ Emits s (stepColor s c fade p k st) := by
  refine call_inv (topChanges p s.stack) h rfl (addStack_sorted _ _ _ _ _ _ _ h.sorted) (fun e he hc => ?_)
    (addStack_target_of_no_change _ _ _ _ _ _ _)
  simp only [addStack] at he
  split at he
  · exact h.ghost e he hc
  · rcases (mem_insertE _ _ _).mp he with rfl | he
    · split at hc <;> cases hc
    · exact h.ghost e ((mem_removeKey ..).mp he).1 hc

theorem stepRemove_inv (s : LSt) (k fade : Nat) (h : Inv s) :
    Inv (stepRemove s k fade).1 ∧ Emits s (stepRemove s k fade) := by
  have same : Inv (s, ([] : List Target)).1 ∧ Emits s (s, []) := ⟨h, Or.inl ⟨rfl, rfl⟩⟩
  unfold stepRemove
  split
  · exact same
  · exact same
  next ch e tl hscan =>
    obtain ⟨A, _, _, hA, htl, hek, hkeys, hch⟩ := scanKey_spec hscan
    cases htl
    have hrm : removeKey k s.stack = A ++ removeKey k tl := by
      rw [hA, removeKey_append, removeKey_absent k A hkeys]
      simp [removeKey, hek]
    -- while an opaque entry lies above the key, edits below it do not show
    have hid (X : List Entry) (hc : ch = false) : (targetOf (A ++ X)).tc = (targetOf s.stack).tc := by
      rw [hA, targetOf_prefix A X _ (hch.symm.trans hc)]
    have hrs := removeKey_sorted k _ h.sorted
    have hrg : ∀ x ∈ removeKey k s.stack, x.destC = none → (x.key, x.destT) ∈ s.timers :=
      fun x hx => h.ghost x ((mem_removeKey ..).mp hx).1
    by_cases hf : (if e.destC.isNone = true then 0 else fade) = 0
    · simp only [hf, if_true]
      exact call_inv ch h rfl hrs hrg (by rw [hrm]; exact hid _)
    · simp only [hf, if_false]
      refine call_inv ch h rfl (insertE_sorted _ _ hrs fun x hx => ((mem_removeKey ..).mp hx).2) (fun x hx hc => ?_) ?_
      · rcases (mem_insertE _ _ _).mp hx with rfl | hx
        · exact List.mem_cons_self
        · exact List.mem_cons_of_mem _ (List.mem_filter.mpr ⟨hrg x hx hc, decide_eq_true ((mem_removeKey ..).mp hx).2⟩)
      · rw [hrm, insertE_append _ A _ fun a ha => ?_]
        · exact hid _
        · rw [← hek]
          exact abv_asymm ((List.pairwise_append.mp (hA ▸ h.sorted)).2.2 a ha e List.mem_cons_self).1

theorem stepFire_inv (s : LSt) (k : Nat) (h : Inv s) :
    Inv ((stepFire s k).getD (s, [])).1 ∧ Emits s ((stepFire s k).getD (s, [])) := by
  unfold stepFire
  split
  · simp only
    split
    next hscan =>
      refine ⟨⟨h.sorted, h.sent, fun e he hc => ?_⟩, Or.inl ⟨rfl, rfl⟩⟩
      have hne : e.key ≠ k := fun hk => scanGhost_none hscan e he ⟨hk, by simp [hc]⟩
      exact List.mem_filter.mpr ⟨h.ghost e he hc, decide_eq_true hne⟩
    next ch hscan =>
      obtain ⟨A, B, hA, hkeep, hch⟩ := scanGhost_spec hscan
      rw [← apply_ite some, Option.getD_some]
      refine call_inv ch h rfl (List.Pairwise.filter _ h.sorted) (fun e he hc => ?_) (fun hc => ?_)
      · obtain ⟨he, hne⟩ := List.mem_filter.mp he
        exact List.mem_filter.mpr ⟨h.ghost e he hc, by simpa [hc] using hne⟩
      · show (targetOf (s.stack.filter _)).tc = _
        rw [hA, List.filter_append, List.filter_eq_self.mpr hkeep, targetOf_prefix A _ B (hch.symm.trans hc)]
  · exact ⟨h, Or.inl ⟨rfl, rfl⟩⟩

theorem step_inv (s : LSt) (o : Op) (h : Inv s) : Inv (step s o).1 ∧ Emits s (step s o) := by
  cases o with
  | adv t => exact ⟨⟨h.sorted, h.sent, h.ghost⟩, Or.inl ⟨rfl, rfl⟩⟩
  | color c fade p k st => exact stepColor_inv s c fade p k st h
  | remove k fade => exact stepRemove_inv s k fade h
  | clear => exact call_inv true h rfl List.Pairwise.nil (by simp) (by simp)
  | fire k => exact stepFire_inv s k h

theorem run_inv (ops : List Op) (s : LSt) (h : Inv s) : Inv (run s ops) := by
  induction ops generalizing s with
  | nil => exact h
  | cons o r ih => exact ih _ (step_inv s o h).1

theorem inv_empty : Inv {} := ⟨List.Pairwise.nil, rfl, by simp⟩

end MpfVerif.Light
