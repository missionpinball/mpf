/-! Reading a guard back from the value of an `if`: the transition functions of the models are `if guard then … else none`
cascades, and every proof about an enabled step starts by inverting one. -/
namespace MpfVerif

theorem of_ite_eq {α : Type} {c : Prop} [Decidable c] {a b r : α} (h : (if c then a else b) = r) :
    c ∧ a = r ∨ ¬c ∧ b = r := by
  by_cases hc : c
  · exact .inl ⟨hc, by rwa [if_pos hc] at h⟩
  · exact .inr ⟨hc, by rwa [if_neg hc] at h⟩

theorem of_when {α : Type} {c : Prop} [Decidable c] {b : Option α} {a : α} (h : (if c then b else none) = some a) :
    c ∧ b = some a :=
  Option.ite_none_right_eq_some.mp h

theorem of_unless {α : Type} {c : Prop} [Decidable c] {b : Option α} {a : α} (h : (if c then none else b) = some a) :
    ¬c ∧ b = some a :=
  Option.ite_none_left_eq_some.mp h

theorem of_ite_some {α : Type} {c : Prop} [Decidable c] {x y : α} (h : (if c then some x else none) = some y) :
    c ∧ x = y :=
  (of_when h).imp_right Option.some.inj

end MpfVerif
