import MpfVerif.Model.QueueEvent
/-! # Lemmas for C02: dispatch tasks of queue events -/
namespace MpfVerif.QueueEvent

/-- serials of the callbacks logged so far -/
def cbs (log : List Obs) : List Nat := log.filterMap (fun o => match o with | .cb _ sn _ => some sn | _ => none)

/-- keys of the handlers invoked so far (sync and coroutine handlers) -/
def callKeys (log : List Obs) : List Nat :=
  log.filterMap (fun o => match o with | .call k _ _ _ _ => some k | .acall k _ _ _ _ => some k | _ => none)

theorem cbs_concat (l : List Obs) (o : Obs) : cbs (l ++ [o]) = cbs l ++ cbs [o] := List.filterMap_append

theorem callKeys_concat (l : List Obs) (o : Obs) : callKeys (l ++ [o]) = callKeys l ++ callKeys [o] :=
  List.filterMap_append

theorem log_concat_other (l : List Obs) (o : Obs) (h1 : cbs [o] = []) (h2 : callKeys [o] = []) :
    cbs (l ++ [o]) = cbs l ∧ callKeys (l ++ [o]) = callKeys l :=
  ⟨(cbs_concat l o).trans (h1 ▸ List.append_nil _), (callKeys_concat l o).trans (h2 ▸ List.append_nil _)⟩

theorem clearCell_log (st : St) (c : Nat) : cbs (clearCell st c).log = cbs st.log ∧ callKeys (clearCell st c).log = callKeys st.log := by
  simp only [clearCell]
  cases (getCell st.cells c).waiter
  · exact log_concat_other _ _ rfl rfl
  · cases (getCell st.cells c).event <;> exact ⟨rfl, rfl⟩

theorem waitCell_log (st : St) (c : Nat) : cbs (waitCell st c).log = cbs st.log ∧ callKeys (waitCell st c).log = callKeys st.log := by
  simp only [waitCell]
  cases (getCell st.cells c).waiter
  · exact ⟨rfl, rfl⟩
  · exact log_concat_other _ _ rfl rfl

theorem runAct_log (own passed : Option Nat) (st : St) (a : Act) :
    cbs (runAct own passed st a).log = cbs st.log ∧ callKeys (runAct own passed st a).log = callKeys st.log := by
  cases a with
  | wait => cases own with | none => exact ⟨rfl, rfl⟩ | some c => exact waitCell_log st c
  | clearOwn => cases own with | none => exact ⟨rfl, rfl⟩ | some c => exact clearCell_log st c
  | clearPassed => cases passed with | none => exact ⟨rfl, rfl⟩ | some c => exact clearCell_log st c
  | postQueue ev cb pass kw => simp only [runAct]; cases st.stopped <;> exact ⟨rfl, rfl⟩
  | resolveWait w =>
    simp only [runAct]
    cases st.wcancelled.contains w || st.wresolved.contains w
    · exact log_concat_other _ _ rfl rfl
    · exact ⟨rfl, rfl⟩
  | cancelWait w => simp only [runAct]; cases st.wresolved.contains w || st.wcancelled.contains w <;> exact ⟨rfl, rfl⟩
  | _ => exact ⟨rfl, rfl⟩

theorem runActs_log (own passed : Option Nat) (st : St) (acts : List Act) :
    cbs (runActs own passed st acts).log = cbs st.log ∧ callKeys (runActs own passed st acts).log = callKeys st.log := by
  induction acts generalizing st with
  | nil => exact ⟨rfl, rfl⟩
  | cons a r ih =>
    have h1 := runAct_log own passed st a
    have h2 := ih (runAct own passed st a)
    exact ⟨h2.1.trans h1.1, h2.2.trans h1.2⟩

theorem runCallback_log (progs : Nat → Prog) (st : St) (pid sn : Nat) (passed : Option Nat) (kw : Kw) :
    cbs (runCallback progs st pid sn passed kw).log = cbs st.log ++ [sn] ∧
    callKeys (runCallback progs st pid sn passed kw).log = callKeys st.log := by
  unfold runCallback
  rw [(runActs_log ..).1, (runActs_log ..).2]
  exact ⟨cbs_concat .., (callKeys_concat ..).trans (List.append_nil _)⟩

theorem getCell_setCell (cells : List Cell) (i : Nat) (c : Cell) (h : i < cells.length) :
    getCell (setCell cells i c) i = c := by
  induction cells generalizing i with
  | nil => simp at h
  | cons x r ih =>
    cases i with
    | zero => rfl
    | succ n => exact ih n (by simpa using h)

/-- the handlers of a snapshot that are actually called for a post with kwargs `kw`: those whose condition holds on the
merged kwargs -/
def eligible (kw : Kw) (hs : List Handler) : List Handler := hs.filter (fun h => condHolds h.cond (kwUpdate kw h.kw))

/-- what the body of one handler (for a coroutine handler: registering its wait) adds to the log of `runTask`: its call -/
theorem body_log (st : St) (b : Bool) (k ev sn : Nat) (kw : Kw) (acts : List Act) :
    let c := st.cells.length
    let st0 := { st with cells := st.cells ++ [{}],
                         log := st.log ++ [if b then Obs.acall k ev sn c kw else Obs.call k ev sn c kw] }
    let st1 := if b then waitCell st0 c else runActs (some c) none st0 acts
    cbs st1.log = cbs st.log ∧ callKeys st1.log = callKeys st.log ++ [k] := by
  cases b <;> simp only [runActs_log, waitCell_log, Bool.false_eq_true, if_false, if_true] <;>
    exact ⟨(cbs_concat ..).trans (List.append_nil _), callKeys_concat ..⟩

theorem stepTask_eq_some (progs : Nat → Prog) (st : St) (t : Task) (r : St × Task) (h : stepTask progs st t = some r) :
    ∃ t0 hs, t0.sn = t.sn ∧ t0.done = false ∧ r = runTask progs t0 hs st := by
  revert h
  fun_cases stepTask progs st t
  case case2 hd _ => exact fun h => ⟨t, _, rfl, by simp_all, (Option.some.inj h).symm⟩
  case case3 hd _ _ _ _ _ _ =>
    exact fun h => ⟨{ t with awaiting := none }, _, rfl, by simp_all, (Option.some.inj h).symm⟩
  all_goals nofun

end MpfVerif.QueueEvent
