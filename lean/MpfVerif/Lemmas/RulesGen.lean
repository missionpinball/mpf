import MpfVerif.Model.RulesGen
import MpfVerif.Lemmas.PyStore
import MpfVerif.Lemmas.RulesCoils
/-!
# C10: what the proofs of `eos_manager_refines_source` and `autofire_refines_source` (Props/C10.lean) evaluate with

The `pystore` equations for reading the manager's and the autofire coil's attributes and configuration out of the model state, and
for the encodings `optB`, `debS`, `vNatD`; `upd` after `upd` and after `coilOn`.
-/
namespace MpfVerif.RulesGen
open MpfVerif.Py MpfVerif.Rules MpfVerif.Gen.RulesOps

theorem upd_upd (s : Rules.St) (i : Nat) (a b : DSt) : upd (upd s i a) i b = upd s i b := by
  simp only [upd]
  congr 1
  funext j
  split <;> rfl

@[simp] theorem upd_self (s : Rules.St) (i : Nat) (a : DSt) : (upd s i a).devs i = a := by simp [upd]

theorem upd_coilOn (s : Rules.St) (x i : Nat) (d : DSt) : upd (coilOn s x) i d = coilOn (upd s i d) x := rfl

attribute [pystore] applyMgr applyMgrEff pb

@[pystore] theorem mgrStore_reads (ds : DSt) :
    mgrStore ds "_button_is_active" = .bool ds.button ∧
    mgrStore ds "_is_eos_closed_long_enough" = .bool ds.eosLong ∧
    mgrStore ds "_enabled_by_repulse" = .bool ds.repOn := by
  simp [mgrStore, pb]

@[pystore] theorem mgrCtx_hold (f : FCfg) : (mgrCtx f).cfg "driver.hold_settings" = .bool f.hold.isNone := by simp [mgrCtx, pb]

theorem eos_closed_gen (f : FCfg) (i : Nat) (s : Rules.St) :
    applyMgr f i s (genMgr f (s.devs i) mgr_eos_closed_long_enough) = some (upd s i { s.devs i with eosLong := true }) := by
  simp [genMgr, callS_eq, mgr_eos_closed_long_enough, pystore]

theorem button_active_gen (f : FCfg) (i : Nat) (s : Rules.St) :
    applyMgr f i s (genMgr f (s.devs i) mgr_button_active) = some (upd s i { s.devs i with button := true }) := by
  simp [genMgr, callS_eq, mgr_button_active, pystore]

theorem button_inactive_gen (f : FCfg) (i : Nat) (s : Rules.St) :
    applyMgr f i s (genMgr f (s.devs i) mgr_button_inactive) =
      some (coilOff (upd s i { s.devs i with button := false, repOn := false }) f.main) := by
  simp [genMgr, callS_eq, mgr_button_inactive, pystore, upd_upd]

attribute [pystore] applyAf applyAfEff

@[pystore] theorem afStore_enabled (ds : DSt) : afStore ds "_enabled" = .bool ds.enabled := by simp [afStore, pb]

@[pystore] theorem afCtx_reads (a : ACfg) :
    (afCtx a).cfg "coil_overwrite.recycle" = optB a.owRecycle ∧
    (afCtx a).cfg "coil.default_recycle" = optB a.defRecycle ∧
    (afCtx a).cfg "switch_overwrite.debounce" = (match a.owDeb with | some d => debS d | none => .none) ∧
    (afCtx a).cfg "switch.debounce" = debS a.swDeb ∧
    (afCtx a).cfg "coil_pulse_delay" = .int a.delay ∧
    (afCtx a).cfg "reverse_switch" = pb a.reverse ∧
    (afCtx a).cfg "coil_overwrite.pulse_ms" = optN a.owPulse ∧
    (afCtx a).cfg "coil_overwrite.pulse_power" = optN a.owPower := by
  cases h : a.owDeb <;> simp [afCtx, h]

@[pystore] theorem optB_none : optB none = .none := rfl
@[pystore] theorem optB_some (b : Bool) : optB (some b) = .bool b := rfl
@[pystore] theorem optB_eq_none (x : Option Bool) : (optB x = .none) = (x = none) := by cases x <;> simp [optB]
@[pystore] theorem pyCmp_optB_true (x : Option Bool) : pyCmp "==" (optB x) (.bool true) = .ok (decide (x = some true)) := by
  rcases x with _ | _ | _ <;> simp [optB, pyCmp, PyVal.num, cmpOp, pure, Except.pure]
@[pystore] theorem default_recycle (x : Option Bool) :
    (decide (x = some true) || decide (x = none)) = match x with | some r => r | none => true := by
  rcases x with _ | _ | _ <;> rfl
@[pystore] theorem debS_normal (b : Bool) : decide (debS b = .str "normal") = b := by cases b <;> simp [debS]
@[pystore] theorem debS_ne_none (b : Bool) : (debS b = .none) = False := by simp [debS]
@[pystore] theorem vNatD_optN (d : Nat) (x : Option Nat) : vNatD d (optN x) = x.getD d := by cases x <;> simp [vNatD, optN]
@[pystore] theorem vNatD_natCast (d n : Nat) : vNatD d (.int n) = n := by simp [vNatD]

end MpfVerif.RulesGen
