import MpfVerif.Lemmas.ShowEvents
import MpfVerif.Model.ShowKey
/-! C17: a show-player key with replaced instances — every instance with its own part of the trace; the chain of deferred stops. -/
namespace MpfVerif.ShowKey
open MpfVerif.Show

theorem stopFrom_elim {C : List Inst × List TObs → Prop} (x : Inst) (rest : List Inst)
    (stopped : x.rs.stopped = true → C (x :: rest, []))
    (chain : x.replaces.isSome = true →
      C ({ x with rs := (Show.stop x.rs).1, replaces := none } :: (stopFrom rest).1,
        (stopFrom rest).2 ++ tag rest.length (Show.stop x.rs).2))
    (single : ¬ x.replaces.isSome = true →
      C ({ x with rs := (Show.stop x.rs).1, replaces := none } :: rest, tag rest.length (Show.stop x.rs).2)) :
    C (stopFrom (x :: rest)) := by
  unfold stopFrom
  by_cases hs : x.rs.stopped = true
  · rw [if_pos hs]; exact stopped hs
  · rw [if_neg hs]
    by_cases hr : x.replaces.isSome = true
    · rw [if_pos hr]; exact chain hr
    · rw [if_neg hr]; exact single hr

theorem settle_elim {C : List Inst × List TObs → Prop} (x : Inst) (rest : List Inst) (r : RS × List Obs)
    (release : C ({ x with rs := r.1, replaces := none } :: (stopFrom rest).1, (stopFrom rest).2 ++ tag rest.length r.2))
    (hold : ¬ (x.replaces.isSome && (r.1.started || r.1.stopped)) = true →
      C ({ x with rs := r.1 } :: rest, tag rest.length r.2)) : C (settle x rest r) := by
  unfold settle
  by_cases h : (x.replaces.isSome && (r.1.started || r.1.stopped)) = true
  · rw [if_pos h]; exact release
  · rw [if_neg h]; exact hold h

theorem stepAt_elim {C : List Inst × List TObs → Prop} (i : Nat) (op : Show.Op) (x : Inst) (rest : List Inst)
    (here : C (settle x rest (Show.step x.rs op))) (below : C (x :: (stepAt i op rest).1, (stepAt i op rest).2)) :
    C (stepAt i op (x :: rest)) := by
  unfold stepAt
  by_cases h : rest.length = i
  · rw [if_pos h]; exact here
  · rw [if_neg h]; exact below

@[simp] theorem stopFrom_length : ∀ (l : List Inst), (stopFrom l).1.length = l.length
  | [] => rfl
  | x :: rest =>
    stopFrom_elim (C := fun p => p.1.length = (x :: rest).length) x rest (fun _ => rfl)
      (fun _ => congrArg (· + 1) (stopFrom_length rest)) (fun _ => rfl)

@[simp] theorem settle_length (x : Inst) (rest : List Inst) (r : RS × List Obs) :
    (settle x rest r).1.length = rest.length + 1 :=
  settle_elim (C := fun p => p.1.length = rest.length + 1) x rest r (congrArg (· + 1) (stopFrom_length rest)) (fun _ => rfl)

@[simp] theorem stepAt_length (i : Nat) (op : Show.Op) : ∀ (l : List Inst), (stepAt i op l).1.length = l.length
  | [] => rfl
  | x :: rest =>
    stepAt_elim (C := fun p => p.1.length = (x :: rest).length) i op x rest (settle_length _ _ _)
      (congrArg (· + 1) (stepAt_length i op rest))

/-- what instance `k` did: the projection of the key's trace -/
def proj (k : Nat) : List TObs → List Obs
  | [] => []
  | o :: r => if o.1 = k then o.2 :: proj k r else proj k r

theorem proj_append (k : Nat) (a b : List TObs) : proj k (a ++ b) = proj k a ++ proj k b := by
  induction a with
  | nil => rfl
  | cons o r ih => simp only [List.cons_append, proj]; split <;> simp [ih]

theorem proj_tag (j k : Nat) (o : List Obs) : proj k (tag j o) = if j = k then o else [] := by
  induction o with
  | nil => simp [tag, proj]
  | cons x r ih =>
    simp only [tag, List.map_cons, proj] at ih ⊢
    by_cases h : j = k
    · rw [if_pos h, if_pos h] at *; rw [ih]
    · rw [if_neg h, if_neg h] at *; exact ih

/-- every tag in the trace names an instance below `n` (an instance that exists when there are `n`) -/
def Below (n : Nat) (o : List TObs) : Prop := ∀ x ∈ o, x.1 < n

theorem below_nil (n : Nat) : Below n [] := fun _ h => nomatch h

theorem below_tag {k n : Nat} (h : k < n) (o : List Obs) : Below n (tag k o) := by
  intro x hx; simp only [tag, List.mem_map] at hx; obtain ⟨_, _, rfl⟩ := hx; exact h

theorem below_append {n : Nat} {a b : List TObs} (ha : Below n a) (hb : Below n b) : Below n (a ++ b) := by
  intro x hx
  rcases List.mem_append.mp hx with h | h
  · exact ha x h
  · exact hb x h

theorem below_mono {n m : Nat} (h : n ≤ m) {o : List TObs} (ho : Below n o) : Below m o :=
  fun x hx => Nat.lt_of_lt_of_le (ho x hx) h

theorem proj_below {n k : Nat} (h : n ≤ k) : ∀ {o : List TObs}, Below n o → proj k o = []
  | [], _ => rfl
  | x :: r, hb => by
    have hx := hb x List.mem_cons_self
    simp only [proj, if_neg (show ¬ x.1 = k by omega)]
    exact proj_below h fun y hy => hb y (List.mem_cons_of_mem _ hy)

theorem stopFrom_below : ∀ (l : List Inst), Below l.length (stopFrom l).2
  | [] => below_nil _
  | x :: rest =>
    stopFrom_elim (C := fun p => Below (rest.length + 1) p.2) x rest (fun _ => below_nil _)
      (fun _ => below_append (below_mono (Nat.le_succ _) (stopFrom_below rest)) (below_tag (Nat.lt_succ_self _) _))
      (fun _ => below_tag (Nat.lt_succ_self _) _)

theorem settle_below (x : Inst) (rest : List Inst) (r : RS × List Obs) : Below (rest.length + 1) (settle x rest r).2 :=
  settle_elim (C := fun p => Below (rest.length + 1) p.2) x rest r
    (below_append (below_mono (Nat.le_succ _) (stopFrom_below rest)) (below_tag (Nat.lt_succ_self _) _))
    (fun _ => below_tag (Nat.lt_succ_self _) _)

theorem stepAt_below (i : Nat) (op : Show.Op) : ∀ (l : List Inst), Below l.length (stepAt i op l).2
  | [] => below_nil _
  | x :: rest =>
    stepAt_elim (C := fun p => Below (rest.length + 1) p.2) i op x rest (settle_below _ _ _)
      (below_mono (Nat.le_succ _) (stepAt_below i op rest))

theorem isReq_notPlay (op : Show.Op) (h : isReq op = true) : op.isPlay = false := by
  cases op with
  | play => cases h
  | _ => rfl

theorem step_elim {C : KS × List TObs → Prop} (s : KS) (o : KOp)
    (new : ∀ c durs num den loops start running manual sync t,
      C (playNew c s durs num den loops start running manual sync t))
    (at_ : ∀ i op n, op.isPlay = false → C ({ insts := (stepAt i op s.insts).1, now := n }, (stepAt i op s.insts).2))
    (keep : ∀ n, C ({ s with now := n }, [])) : C (step s o) := by
  have req : ∀ op, C (reqStep s op) := fun op => by
    unfold reqStep
    split
    · exact at_ _ op _ (isReq_notPlay op ‹_›)
    · exact keep s.now
  cases o with
  | play durs num den loops start running manual sync t => exact new ..
  | req op => exact req op
  | fire i t => exact at_ i (.fire t) _ rfl
  | playc cid durs num den loops start running manual sync t =>
    simp only [step]
    split
    · exact new ..
    · split
      · exact keep _
      · exact req _
      · exact new ..

/-- every instance satisfies `P` with its own part of the key's trace -/
def Each (P : RS → List Obs → Prop) (tr : List TObs) : List Inst → Prop
  | [] => True
  | x :: rest => P x.rs (proj rest.length tr) ∧ Each P tr rest

theorem each_at {P : RS → List Obs → Prop} {tr : List TObs} (pre : List Inst) {x : Inst} {rest : List Inst} :
    Each P tr (pre ++ x :: rest) → P x.rs (proj rest.length tr) := by
  induction pre with
  | nil => exact fun h => h.1
  | cons y r ih => exact fun h => ih h.2

theorem each_const {Q : RS → Prop} {tr : List TObs} : ∀ {l : List Inst}, Each (fun s _ => Q s) tr l ↔ ∀ x ∈ l, Q x.rs
  | [] => by simp [Each]
  | x :: rest => by simp [Each, each_const (l := rest)]

section
variable {P : RS → List Obs → Prop}

theorem each_tag_high (j : Nat) (o : List Obs) (tr : List TObs) : ∀ (l : List Inst), l.length ≤ j → Each P tr l →
    Each P (tr ++ tag j o) l
  | [], _, _ => trivial
  | x :: rest, hj, h => by
    refine ⟨?_, each_tag_high j o tr rest (Nat.le_of_succ_le hj) h.2⟩
    rw [proj_append, proj_tag, if_neg (by simp at hj; omega), List.append_nil]
    exact h.1

theorem each_cons (x : Inst) (l : List Inst) (tr : List TObs) (o : List Obs) (hx : P x.rs (proj l.length tr ++ o))
    (hl : Each P tr l) : Each P (tr ++ tag l.length o) (x :: l) :=
  ⟨by rw [proj_append, proj_tag, if_pos rfl]; exact hx, each_tag_high _ o tr l (Nat.le_refl _) hl⟩

theorem each_cons_stopFrom (x : Inst) (rest : List Inst) (tr : List TObs) (o : List Obs)
    (h : Each P (tr ++ (stopFrom rest).2) (stopFrom rest).1) (hx : P x.rs (proj rest.length tr ++ o)) :
    Each P (tr ++ ((stopFrom rest).2 ++ tag rest.length o)) (x :: (stopFrom rest).1) := by
  have := each_cons x (stopFrom rest).1 (tr ++ (stopFrom rest).2) o
    (by rwa [stopFrom_length, proj_append, proj_below (Nat.le_refl _) (stopFrom_below rest), List.append_nil]) h
  rwa [stopFrom_length, List.append_assoc] at this

variable (hstop : ∀ s tr, P s tr → P (Show.stop s).1 (tr ++ (Show.stop s).2))
include hstop

theorem stopFrom_each : ∀ (l : List Inst) (tr : List TObs), Each P tr l → Each P (tr ++ (stopFrom l).2) (stopFrom l).1
  | [], _, _ => trivial
  | x :: rest, tr, h =>
    stopFrom_elim (C := fun p => Each P (tr ++ p.2) p.1) x rest (fun _ => by rwa [List.append_nil])
      (fun _ => each_cons_stopFrom _ rest tr _ (stopFrom_each rest tr h.2) (hstop _ _ h.1))
      (fun _ => each_cons _ rest tr _ (hstop _ _ h.1) h.2)

theorem settle_each (x : Inst) (rest : List Inst) (r : RS × List Obs) (tr : List TObs) (h : Each P tr rest)
    (hr : P r.1 (proj rest.length tr ++ r.2)) : Each P (tr ++ (settle x rest r).2) (settle x rest r).1 :=
  settle_elim (C := fun p => Each P (tr ++ p.2) p.1) x rest r
    (each_cons_stopFrom _ rest tr _ (stopFrom_each hstop rest tr h) hr) (fun _ => each_cons _ rest tr _ hr h)

variable (hstep : ∀ s o tr, o.isPlay = false → P s tr → P (Show.step s o).1 (tr ++ (Show.step s o).2))
include hstep

theorem stepAt_each (i : Nat) (op : Show.Op) (hop : op.isPlay = false) : ∀ (l : List Inst) (tr : List TObs),
    Each P tr l → Each P (tr ++ (stepAt i op l).2) (stepAt i op l).1
  | [], _, _ => trivial
  | x :: rest, tr, h => by
    refine stepAt_elim (C := fun p => Each P (tr ++ p.2) p.1) i op x rest
      (settle_each hstop x rest _ tr h.2 (hstep _ _ _ hop h.1)) ⟨?_, stepAt_each i op hop rest tr h.2⟩
    rw [stepAt_length, proj_append, proj_below (Nat.le_refl _) (stepAt_below i op rest), List.append_nil]
    exact h.1

/-- the invariant of a run: `Each`, and no tag in the trace names an instance that does not exist yet (so a new
instance starts with an empty trace of its own) -/
def EachInv (P : RS → List Obs → Prop) (s : KS) (tr : List TObs) : Prop := Each P tr s.insts ∧ Below s.insts.length tr

theorem stepAt_eachInv (s : KS) (tr : List TObs) (n : Nat) (h : EachInv P s tr) (i : Nat) (op : Show.Op)
    (hop : op.isPlay = false) :
    EachInv P { insts := (stepAt i op s.insts).1, now := n } (tr ++ (stepAt i op s.insts).2) :=
  ⟨stepAt_each hstop hstep i op hop _ tr h.1, by
    show Below (stepAt i op s.insts).1.length _
    rw [stepAt_length]; exact below_append h.2 (stepAt_below _ _ _)⟩

variable (hplay : ∀ o : Show.Op, o.isPlay = true → P (Show.step {} o).1 (Show.step {} o).2)
include hplay

omit hstep in
theorem playNew_eachInv (s : KS) (tr : List TObs) (h : EachInv P s tr) (c : Option (Nat × Option Nat × Nat))
    (durs : List Nat) (num den : Nat) (loops : Option Nat) (start : Int) (running manual : Bool) (sync t : Nat) :
    EachInv P (playNew c s durs num den loops start running manual sync t).1
      (tr ++ (playNew c s durs num den loops start running manual sync t).2) := by
  obtain ⟨l, n⟩ := s
  obtain ⟨h, hb⟩ := h
  generalize hfr : Show.step {} (.play durs num den loops start running manual sync t) = fresh
  have hf : P fresh.1 (proj l.length tr ++ fresh.2) := by
    rw [proj_below (Nat.le_refl _) hb, ← hfr]; exact hplay _ rfl
  have hbt : Below (l.length + 1) (tr ++ tag l.length fresh.2) :=
    below_append (below_mono (Nat.le_succ _) hb) (below_tag (Nat.lt_succ_self _) _)
  unfold playNew
  rw [hfr]
  cases l with
  | nil => exact ⟨each_cons _ _ tr _ hf h, hbt⟩
  | cons x rest =>
    dsimp only
    by_cases hs : x.rs.stopped = true
    · rw [if_pos hs]; exact ⟨each_cons _ _ tr _ hf h, hbt⟩
    · rw [if_neg hs]
      by_cases hy : sync ≠ 0
      · rw [if_pos hy]; exact ⟨each_cons _ _ tr _ hf h, hbt⟩
      · rw [if_neg hy]
        refine ⟨each_cons_stopFrom _ _ tr _ (stopFrom_each hstop _ tr h) hf, ?_⟩
        show Below ((stopFrom (x :: rest)).1.length + 1) _
        rw [stopFrom_length]
        exact below_append (below_mono (Nat.le_succ _) hb)
          (below_append (below_mono (Nat.le_succ _) (stopFrom_below _)) (below_tag (Nat.lt_succ_self _) _))

theorem step_eachInv (s : KS) (o : KOp) (tr : List TObs) (h : EachInv P s tr) :
    EachInv P (step s o).1 (tr ++ (step s o).2) := by
  refine step_elim (C := fun r => EachInv P r.1 (tr ++ r.2)) s o ?_ ?_ ?_
  · intro c durs num den loops start running manual sync t; exact playNew_eachInv hstop hplay s tr h c ..
  · intro i op n hop; exact stepAt_eachInv hstop hstep s tr n h i op hop
  · intro n; rw [List.append_nil]; exact h

theorem run_each (ops : List KOp) : Each P (run {} ops).2 (run {} ops).1.insts := by
  suffices ∀ (ops : List KOp) (s : KS) (tr : List TObs), EachInv P s tr → EachInv P (run s ops).1 (tr ++ (run s ops).2) by
    simpa using (this ops {} [] ⟨trivial, below_nil _⟩).1
  intro ops
  induction ops with
  | nil => intro s tr h; simpa [run] using h
  | cons o r ih =>
    intro s tr h
    simp only [run]
    rw [← List.append_assoc]
    exact ih _ _ (step_eachInv hstop hstep hplay s o tr h)

end

theorem run_ledgers (ops : List KOp) : Each (fun s tr => ∃ n0, Ledger n0 s tr) (run {} ops).2 (run {} ops).1.insts :=
  run_each (fun s tr ⟨n0, h⟩ => ⟨n0, stop_ledger n0 s tr h⟩) (fun s o tr ho ⟨n0, h⟩ => ⟨n0, step_ledger n0 s o tr ho h⟩)
    (fun o ho => match o, ho with
      | .play _ _ _ loops _ _ _ _ _, _ => ⟨loops, play_ledger ..⟩) ops

theorem run_invs (ops : List KOp) : ∀ x ∈ (run {} ops).1.insts, Show.Inv x.rs :=
  each_const.mp (run_each (P := fun s _ => Show.Inv s) (fun s _ => stop_inv s) (fun s o _ _ => step_inv s o)
    (fun o _ => step_inv _ o init_inv) ops)

theorem run_known (ops : List KOp) : ∀ x ∈ (run {} ops).1.insts, KnownInv x.rs :=
  each_const.mp (run_each (P := fun s _ => KnownInv s) (fun s _ _ => Or.inl (stop_stopped s))
    (fun s o _ _ => step_knownInv s o) (fun o _ => step_knownInv _ o (Or.inl rfl)) ops)

def AllStopped (l : List Inst) : Prop := ∀ y ∈ l, y.rs.stopped = true

theorem allStopped_nil : AllStopped [] := fun _ h => nomatch h

theorem allStopped_cons (x : Inst) (rest : List Inst) : AllStopped (x :: rest) ↔ x.rs.stopped = true ∧ AllStopped rest := by
  unfold AllStopped; simp

/-- the chain of the instances of one key (newest first): an instance that still holds a deferred stop (`replaces`) has
neither started nor been stopped and the instance it names is the one created just before it; an instance that holds
none has nothing running below it -/
def Chain : List Inst → Prop
  | [] => True
  | x :: rest =>
    (∀ j, x.replaces = some j → x.rs.started = false ∧ x.rs.stopped = false ∧ j + 1 = rest.length) ∧
    (x.replaces = none → AllStopped rest) ∧ Chain rest

theorem Chain.holds {x : Inst} {rest : List Inst} (h : Chain (x :: rest)) {j : Nat} (hj : x.replaces = some j) :
    x.rs.started = false ∧ x.rs.stopped = false ∧ j + 1 = rest.length := h.1 j hj

theorem Chain.free {x : Inst} {rest : List Inst} (h : Chain (x :: rest)) (hn : x.replaces = none) : AllStopped rest :=
  h.2.1 hn

theorem Chain.tail {x : Inst} {rest : List Inst} (h : Chain (x :: rest)) : Chain rest := h.2.2

theorem chain_suffix (pre : List Inst) : ∀ l, Chain (pre ++ l) → Chain l := by
  induction pre with
  | nil => intro l h; exact h
  | cons y r ih => intro l h; exact ih l h.tail

theorem chain_done (x : Inst) (rest : List Inst) (h : Chain (x :: rest)) (hx : x.rs.started = true ∨ x.rs.stopped = true) :
    AllStopped rest := by
  apply h.free
  cases hr : x.replaces with
  | none => rfl
  | some j =>
    obtain ⟨h1, h2, _⟩ := h.holds hr
    rcases hx with hx | hx
    · rw [h1] at hx; cases hx
    · rw [h2] at hx; cases hx

theorem chain_top (x : Inst) (l : List Inst) (hr : x.replaces = none) (ha : AllStopped l) (hl : Chain l) : Chain (x :: l) :=
  ⟨fun j hj => (by rw [hr] at hj; cases hj), fun _ => ha, hl⟩

theorem stopFrom_chain : ∀ (l : List Inst), Chain l → Chain (stopFrom l).1 ∧ AllStopped (stopFrom l).1
  | [], _ => ⟨trivial, allStopped_nil⟩
  | x :: rest, h => by
    refine stopFrom_elim (C := fun p => Chain p.1 ∧ AllStopped p.1) x rest ?_ ?_ ?_
    · intro hs; exact ⟨h, (allStopped_cons ..).mpr ⟨hs, chain_done x rest h (Or.inr hs)⟩⟩
    · intro _
      have ih := stopFrom_chain rest h.tail
      exact ⟨chain_top _ _ rfl ih.2 ih.1, (allStopped_cons ..).mpr ⟨stop_stopped _, ih.2⟩⟩
    · intro hr
      have ha := h.free (Option.not_isSome_iff_eq_none.mp hr)
      exact ⟨chain_top _ _ rfl ha h.tail, (allStopped_cons ..).mpr ⟨stop_stopped _, ha⟩⟩

theorem settle_chain (x : Inst) (rest : List Inst) (r : RS × List Obs) (h : Chain (x :: rest)) :
    Chain (settle x rest r).1 := by
  refine settle_elim (C := fun p => Chain p.1) x rest r ?_ ?_
  · have := stopFrom_chain rest h.tail
    exact chain_top _ _ rfl this.2 this.1
  · intro hc
    refine ⟨fun j hj => ?_, h.free, h.tail⟩
    have hj : x.replaces = some j := hj
    simp only [hj, Option.isSome_some, Bool.true_and, Bool.or_eq_true, not_or, Bool.not_eq_true] at hc
    exact ⟨hc.1, hc.2, (h.holds hj).2.2⟩

theorem stepAt_allStopped (i : Nat) (op : Show.Op) (hop : op.isPlay = false) (l : List Inst) (h : AllStopped l) :
    AllStopped (stepAt i op l).1 :=
  each_const.mp (stepAt_each (P := fun s _ => s.stopped = true) (fun _ _ _ => stop_stopped _)
    (fun s o _ ho hs => (step_after_stop s o hs ho).1) i op hop l [] (each_const.mpr h))

theorem stepAt_chain (i : Nat) (op : Show.Op) (hop : op.isPlay = false) : ∀ (l : List Inst), Chain l →
    Chain (stepAt i op l).1
  | [], _ => trivial
  | x :: rest, h =>
    stepAt_elim (C := fun p => Chain p.1) i op x rest (settle_chain x rest _ h)
      ⟨by rw [stepAt_length]; exact fun j => h.holds, fun hn => stepAt_allStopped i op hop rest (h.free hn), stepAt_chain i op hop rest h.tail⟩

theorem fresh_sync (durs : List Nat) (num den : Nat) (loops : Option Nat) (start : Int) (running manual : Bool)
    (sync t : Nat) (hs : sync ≠ 0) :
    (Show.step {} (.play durs num den loops start running manual sync t)).1.started = false ∧
    (Show.step {} (.play durs num den loops start running manual sync t)).1.stopped = false ∧
    (Show.step {} (.play durs num den loops start running manual sync t)).2 = [] := by
  simp [step_play_init, startPlay, hs]

theorem playNew_chain (c : Option (Nat × Option Nat × Nat)) (s : KS) (durs : List Nat) (num den : Nat) (loops : Option Nat)
    (start : Int) (running manual : Bool) (sync t : Nat) (h : Chain s.insts) :
    Chain (playNew c s durs num den loops start running manual sync t).1.insts := by
  unfold playNew
  obtain ⟨l, n⟩ := s
  cases l with
  | nil => exact chain_top _ _ rfl allStopped_nil trivial
  | cons x rest =>
    dsimp only
    by_cases hs : x.rs.stopped = true
    · rw [if_pos hs]
      exact chain_top _ _ rfl ((allStopped_cons ..).mpr ⟨hs, chain_done x rest h (Or.inr hs)⟩) h
    · rw [if_neg hs]
      by_cases hy : sync ≠ 0
      · rw [if_pos hy]
        have ff := fresh_sync durs num den loops start running manual sync t hy
        exact ⟨fun j hj => ⟨ff.1, ff.2.1, by cases hj; rfl⟩, fun hn => (by cases hn), h⟩
      · rw [if_neg hy]
        have := stopFrom_chain (x :: rest) h
        exact chain_top _ _ rfl this.2 this.1

theorem step_chain (s : KS) (o : KOp) (h : Chain s.insts) : Chain (step s o).1.insts := by
  refine step_elim (C := fun r => Chain r.1.insts) s o ?_ ?_ ?_
  · intro c durs num den loops start running manual sync t; exact playNew_chain c s _ _ _ _ _ _ _ _ _ h
  · intro i op _ hop; exact stepAt_chain i op hop _ h
  · intro _; exact h

theorem run_chain (ops : List KOp) : ∀ s, Chain s.insts → Chain (run s ops).1.insts := by
  induction ops with
  | nil => intro s h; exact h
  | cons o r ih => intro s h; exact ih _ (step_chain s o h)

theorem run_append (a b : List KOp) : ∀ s, run s (a ++ b) = ((run (run s a).1 b).1, (run s a).2 ++ (run (run s a).1 b).2) := by
  induction a with
  | nil => intro s; simp [run]
  | cons o r ih => intro s; simp only [List.cons_append, run, ih, List.append_assoc]

theorem stepAt_head (op : Show.Op) (x : Inst) (rest : List Inst) :
    ∃ y rest', (stepAt ((x :: rest).length - 1) op (x :: rest)).1 = y :: rest' ∧ y.rs = (Show.step x.rs op).1 := by
  unfold stepAt
  rw [if_pos (show rest.length = (x :: rest).length - 1 from rfl)]
  exact settle_elim (C := fun p => ∃ y rest', p.1 = y :: rest' ∧ y.rs = (Show.step x.rs op).1) x rest _
    ⟨_, _, rfl, rfl⟩ (fun _ => ⟨_, _, rfl, rfl⟩)

end MpfVerif.ShowKey
