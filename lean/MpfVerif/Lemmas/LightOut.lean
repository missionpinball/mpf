import MpfVerif.Lemmas.Light
import MpfVerif.Model.BatchLight
/-! C09: the fade line, RGBW channel mapping, brightness factor, batch grouping. -/
namespace MpfVerif.Light

theorem clampI_le (x : Int) (hi : Nat) : clampI x hi ≤ hi := by
  unfold clampI
  split
  · exact Nat.zero_le _
  · split
    · exact Nat.le_refl _
    next h => exact Int.toNat_le.mpr (Int.not_lt.mp h)

theorem minC_spec (c : RGB) :
    minC c ≤ c.1 ∧ minC c ≤ c.2.1 ∧ minC c ≤ c.2.2 ∧ (minC c = c.1 ∨ minC c = c.2.1 ∨ minC c = c.2.2) := by
  unfold minC
  refine ⟨Nat.min_le_left .., Nat.le_trans (Nat.min_le_right ..) (Nat.min_le_left ..),
    Nat.le_trans (Nat.min_le_right ..) (Nat.min_le_right ..), ?_⟩
  rcases Nat.le_total c.1 (min c.2.1 c.2.2) with h | h
  · exact Or.inl (Nat.min_eq_left h)
  · rw [Nat.min_eq_right h]
    rcases Nat.le_total c.2.1 c.2.2 with h | h
    · exact Or.inr (Or.inl (Nat.min_eq_left h))
    · exact Or.inr (Or.inr (Nat.min_eq_right h))

theorem rgbw_duck (c : RGB) : rgbw 1 c = (c.1 - minC c, c.2.1 - minC c, c.2.2 - minC c, minC c) := rfl

theorem rgbw_white_only (c : RGB) :
    rgbw 2 c = if c.1 = c.2.1 ∧ c.2.1 = c.2.2 then (0, 0, 0, c.1) else (c.1, c.2.1, c.2.2, 0) := rfl

theorem rgbw_min (style : Nat) (c : RGB) (h1 : style ≠ 1) (h2 : style ≠ 2) :
    rgbw style c = (c.1, c.2.1, c.2.2, minC c) := by
  simp [rgbw, h1, h2]

theorem gammaC_le (q : Nat) (hq : q ≤ 4) (c : RGB) :
    (gammaC q c).1 ≤ c.1 ∧ (gammaC q c).2.1 ≤ c.2.1 ∧ (gammaC q c).2.2 ≤ c.2.2 := by
  unfold gammaC
  split
  · exact ⟨Nat.le_refl _, Nat.le_refl _, Nat.le_refl _⟩
  · exact ⟨mul_div_le _ hq, mul_div_le _ hq, mul_div_le _ hq⟩

theorem gammaC_mono (q : Nat) (x y : RGB) :
    (x.1 ≤ y.1 → (gammaC q x).1 ≤ (gammaC q y).1) ∧ (x.2.1 ≤ y.2.1 → (gammaC q x).2.1 ≤ (gammaC q y).2.1) ∧
    (x.2.2 ≤ y.2.2 → (gammaC q x).2.2 ≤ (gammaC q y).2.2) := by
  have key (a b : Nat) (h : a ≤ b) : a * q / 4 ≤ b * q / 4 := Nat.div_le_div_right (Nat.mul_le_mul_right _ h)
  unfold gammaC
  split
  · exact ⟨id, id, id⟩
  · exact ⟨key _ _, key _ _, key _ _⟩

end MpfVerif.Light

namespace MpfVerif.Batch

/-- reversed list of successive light numbers (newest first) -/
def SeqRev : List (Nat × Nat) → Prop
  | [] => True
  | [_] => True
  | a :: b :: r => a.1 = b.1 + 1 ∧ SeqRev (b :: r)

theorem group_flatten (mb tol : Nat) (xs cur : List (Nat × Nat)) (c : Nat) :
    (group mb tol xs cur c).flatten = cur.reverse ++ xs := by
  induction xs generalizing cur c with
  | nil => cases cur <;> simp [group]
  | cons x r ih =>
    cases cur with
    | nil => simp [group, ih]
    | cons y cur =>
      rw [group]
      split <;> simp [ih]

theorem group_bounds (mb tol : Nat) (xs cur : List (Nat × Nat)) (c : Nat) (hs : SeqRev cur)
    (hl : cur.length ≤ max mb 1) :
    ∀ g ∈ group mb tol xs cur c, g ≠ [] ∧ g.length ≤ max mb 1 ∧ SeqRev g.reverse := by
  have closed (y : Nat × Nat) (cur : List (Nat × Nat)) (hs : SeqRev (y :: cur)) (hl : (y :: cur).length ≤ max mb 1) :
      (y :: cur).reverse ≠ [] ∧ (y :: cur).reverse.length ≤ max mb 1 ∧ SeqRev (y :: cur).reverse.reverse :=
    ⟨by simp, by rwa [List.length_reverse], by rwa [List.reverse_reverse]⟩
  induction xs generalizing cur c with
  | nil =>
    cases cur with
    | nil => exact fun _ hg => nomatch hg
    | cons y cur =>
      rw [group]
      exact fun g hg => List.mem_singleton.mp hg ▸ closed y cur hs hl
  | cons x r ih =>
    have fresh := ih [x] x.2 trivial (Nat.le_max_right mb 1)
    cases cur with
    | nil => rwa [group]
    | cons y cur =>
      rw [group]
      split
      next hc => exact ih (x :: y :: cur) c ⟨hc.1, hs⟩ (Nat.le_trans (Nat.succ_le_of_lt hc.2.2) (Nat.le_max_left ..))
      · exact List.forall_mem_cons.mpr ⟨closed y cur hs hl, fresh⟩

theorem fadeAt_le (f : Fade) (now m : Nat) : fadeAt f now m ≤ m := by
  unfold fadeAt
  split
  · split
    · exact Nat.le_refl _
    next h => exact Nat.sub_le_iff_le_add'.mpr (Nat.le_of_not_lt h)
  · exact Nat.zero_le _

end MpfVerif.Batch
