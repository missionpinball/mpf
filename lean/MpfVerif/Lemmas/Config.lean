import MpfVerif.Model.Config
import MpfVerif.Gen.SpecTable
import Mathlib.Algebra.Order.Round
import Mathlib.Tactic.Linarith
import Mathlib.Tactic.NormNum
import Mathlib.Data.Rat.Floor
/-! Helper lemmas for C12. -/
namespace MpfVerif.C12
open MpfVerif.Config MpfVerif.Gen

def modelledValidators : List String :=
  ["int", "float", "num", "bool", "str", "lstr", "ms", "secs", "enum", "pow2", "bool_int",
   -- in Model/ConfigExt.lean
   "machine", "subconfig", "dict", "list", "color", "color_or_token", "gain", "event_handler", "event_posted",
   "int_or_token", "ms_or_token", "secs_or_token", "float_or_token", "num_or_token", "bool_or_token", "template_bool",
   "template_float", "template_float_or_token", "template_int", "template_ms", "template_secs", "template_str",
   "boolean", "int_from_hex"]
/-- `ignore` is not a validator (the key is skipped); `kivycolor` (mpf-mc widgets) is answered `unmodelled` -/
def opaqueValidators : List String := ["ignore", "kivycolor"]

/-- branch j is shadowed by an earlier branch i if one of j's suffixes ends with one of i's -/
def noShadowAux : List TimeSuffix.Entry → List TimeSuffix.Entry → Bool
  | _, [] => true
  | earlier, e :: rest =>
    (earlier.all (fun p => p.suffixes.all (fun sp => e.suffixes.all (fun se => !(endsWith se.toList sp.toList))))) &&
    noShadowAux (earlier ++ [e]) rest

def noShadow (t : List TimeSuffix.Entry) : Bool := noShadowAux [] t

def RelErr (u : ℚ) (rnd : ℚ → ℚ) : Prop := ∀ x, |rnd x - x| ≤ u * |x|

variable {rnd : ℚ → ℚ} {u : ℚ}

theorem relerr_mul (hu : 0 ≤ u) (hr : RelErr u rnd) {x t e U : ℚ} (hU : 0 ≤ U)
    (h : |x - t| ≤ e * |t|) : |rnd (x * U) - t * U| ≤ ((1 + u) * (1 + e) - 1) * |t * U| := by
  have h1 : |x * U - t * U| ≤ e * |t * U| := by
    rw [← sub_mul, abs_mul, abs_mul, abs_of_nonneg hU, ← mul_assoc]
    exact mul_le_mul_of_nonneg_right h hU
  have h2 : |x * U| ≤ |t * U| + |x * U - t * U| := by simpa using abs_add_le (t * U) (x * U - t * U)
  have h3 := mul_le_mul_of_nonneg_left h2 hu
  have h4 := abs_sub_le (rnd (x * U)) (x * U) (t * U)
  have h5 := mul_le_mul_of_nonneg_left h1 hu
  linarith [hr (x * U)]

theorem relerr_foldl (hu : 0 ≤ u) (hr : RelErr u rnd) :
    ∀ (Us : List ℚ) {x t e : ℚ}, (∀ U ∈ Us, 0 ≤ U) → |x - t| ≤ e * |t| →
      |Us.foldl (fun x U => rnd (x * U)) x - Us.foldl (· * ·) t|
        ≤ ((1 + u) ^ Us.length * (1 + e) - 1) * |Us.foldl (· * ·) t|
  | [], _, _, _, _, h => by simpa using h
  | U :: Us, _, _, _, hU, h => by
    have := relerr_foldl hu hr Us (fun V hV => hU V (List.mem_cons_of_mem _ hV))
      (relerr_mul hu hr (hU U List.mem_cons_self) h)
    simpa [pow_succ, mul_assoc] using this

theorem round_of_relerr {y t e B : ℚ} {n : ℤ} (h : |y - t| ≤ e * |t|) (ht : t = n) (hb : |t| ≤ B)
    (hs : e * B < 1 / 2) : round y = n := by
  have : e * |t| < 1 / 2 := by
    rcases le_or_gt 0 e with he | he
    · exact (mul_le_mul_of_nonneg_left hb he).trans_lt hs
    · exact (mul_nonpos_of_nonpos_of_nonneg he.le (abs_nonneg t)).trans_lt one_half_pos
  rw [round_eq, Int.floor_eq_iff, ← ht]
  rw [abs_le] at h
  constructor <;> linarith [h.1, h.2]

variable {x out : Y}

theorem rangeCheck_ok {r : Option Range} {c : R} (h : rangeCheck r c = .ok out) :
    out = .none ∨ (c = .ok out ∧ inRange r out = true) := by
  cases c with
  | ok v =>
    cases v with
    | none => cases h; exact .inl rfl
    | _ =>
      simp only [rangeCheck] at h
      split at h <;> cases h
      exact .inr ⟨rfl, ‹_›⟩
  | _ => cases h

theorem pyInt_ok {s : String}
    (h : (match pyInt s with | .val i => R.ok (.int i) | .err => .reject | .unknown => .unmodelled) = .ok out) :
    ∃ i, out = .int i := by
  split at h <;> cases h
  exact ⟨_, rfl⟩

theorem intConv_typed (h : intConv x = .ok out) : HasType (.int none) out = true := by
  cases x with
  | str s => obtain ⟨i, rfl⟩ := pyInt_ok h; rfl
  | _ => cases h <;> rfl

theorem floatOfP_typed {p : P Y} (h : floatOfP p = .ok out) : HasType (.float none) out = true := by
  unfold floatOfP at h
  split at h <;> cases h <;> rfl

theorem floatConv_typed (h : floatConv x = .ok out) : HasType (.float none) out = true := by
  cases x with
  | str s => exact floatOfP_typed h
  | _ => cases h; rfl

theorem numConv_typed (h : numConv x = .ok out) : HasType (.num none) out = true := by
  cases x with
  | str s =>
    simp only [numConv] at h
    split at h
    · have := floatOfP_typed h
      -- a float is a num
      cases out with
      | str s => exact this
      | _ => rfl
    · obtain ⟨i, rfl⟩ := pyInt_ok h; rfl
  | _ => cases h; rfl

theorem nan_range (r : Option Range) (h : inRange r .nan = true) :
    (match r with | Option.none => true | some rr => rr.lo.isNone && rr.hi.isNone) = true := by
  cases r with
  | none => rfl
  | some rr => exact h

theorem vInt_typed {r : Option Range} (h : vInt r x = .ok out) : HasType (.int r) out = true := by
  rcases rangeCheck_ok h with rfl | ⟨h1, h2⟩
  · rfl
  · have := intConv_typed h1
    -- an int: the range `h2` is what is left; anything else: `this` is absurd (for None: the goal)
    cases out with
    | int i => exact h2
    | _ => exact this

theorem vFloat_typed {r : Option Range} (h : vFloat r x = .ok out) : HasType (.float r) out = true := by
  rcases rangeCheck_ok h with rfl | ⟨h1, h2⟩
  · rfl
  · have := floatConv_typed h1
    cases out with
    | rat n d => exact h2
    | inf s => exact h2
    | nan => exact h2
    | _ => exact this

theorem vNum_typed {r : Option Range} (h : vNum r x = .ok out) : HasType (.num r) out = true := by
  rcases rangeCheck_ok h with rfl | ⟨h1, h2⟩
  · rfl
  · have := numConv_typed h1
    cases out with
    | none => rfl
    | str s => exact this
    | _ => exact h2

theorem msOfUpper_int {tbl : List TimeSuffix.Entry} {u : List Char}
    (ht : ∀ e ∈ tbl, e.floatConv = true → e.outer = "round") (h : msOfUpper tbl u = .ok out) : ∃ i, out = .int i := by
  induction tbl with
  | nil => exact pyInt_ok h
  | cons e rest ih =>
    unfold msOfUpper at h
    by_cases hs : e.suffixes.any (fun s => endsWith u s.toList) = true
    · rw [if_pos hs] at h
      cases hf : e.floatConv <;> simp only [hf, Bool.false_eq_true, if_false, if_true] at h
      · split at h <;> cases h
        exact ⟨_, rfl⟩
      · simp only [ht e List.mem_cons_self hf, beq_self_eq_true, if_true] at h
        split at h <;> try cases h
        split at h <;> cases h
        exact ⟨_, rfl⟩
    · rw [if_neg hs] at h
      exact ih (fun e he => ht e (List.mem_cons_of_mem _ he)) h

theorem table_rounds : ∀ e ∈ TimeSuffix.table, e.floatConv = true → e.outer = "round" := by decide +kernel

theorem vMs_typed (h : vMs x = .ok out) : HasType .ms out = true := by
  cases x with
  | str s => obtain ⟨i, rfl⟩ := msOfUpper_int table_rounds h; rfl
  | _ => cases h <;> rfl

theorem vSecs_typed (h : vSecs x = .ok out) : HasType .secs out = true := by
  unfold vSecs at h
  split at h
  · cases h; rfl
  · split at h
    · dsimp only at h
      generalize msOfUpper _ _ = r at h
      cases r with
      | ok v =>
        cases v with
        | int i => cases h; rfl
        | _ => cases h
      | _ => cases h
    · cases h

theorem vBool_typed (h : vBool x = .ok out) : HasType .bool out = true := by
  cases x with
  | str s =>
    simp only [vBool] at h
    split at h
    · cases h; rfl
    · split at h <;> cases h
      rfl
  | _ => cases h <;> rfl

theorem vStr_typed {l : Bool} (h : vStr l x = .ok out) :
    HasType (if l then .lstr else .str) out = true := by
  unfold vStr at h
  split at h
  · cases h; cases l <;> rfl
  · split at h <;> cases h
    cases l <;> rfl

theorem vEnum_typed {vals : List String} (h : vEnum vals x = .ok out) :
    HasType (.enum vals) out = true := by
  have mem {s} (hs : (vals.map lowerS).contains s = true) : HasType (.enum vals) (.str s) = true :=
    Bool.or_eq_true_iff.mpr (.inl hs)
  simp only [vEnum] at h
  split at h
  · split at h
    · cases h; rfl
    · split at h <;> cases h
      exact Bool.or_eq_true_iff.mpr (.inr (beq_self_eq_true _))
  · split at h
    · split_ifs at h <;> cases h
      · exact mem ‹_›
      · exact mem (Bool.and_eq_true_iff.mp ‹_›).2
      · exact mem (Bool.and_eq_true_iff.mp ‹_›).2
    · cases h

theorem vBoolInt_typed (h : vBoolInt x = .ok out) : HasType .boolInt out = true := by
  unfold vBoolInt at h
  cases hb : vBool x with
  | ok v =>
    rw [hb] at h
    cases v with
    | bool b => cases b <;> cases h <;> rfl
    | _ => cases h; rfl
  | _ => rw [hb] at h; cases h

theorem validateItem_typed {vd : V} {item : Y} (hp : vd ≠ .pow2) (h : validateItem vd item = .ok out) :
    HasType vd out = true := by
  cases vd with
  | int r => exact vInt_typed h
  | float r => exact vFloat_typed h
  | num r => exact vNum_typed h
  | bool => exact vBool_typed h
  | str => exact vStr_typed (l := false) h
  | lstr => exact vStr_typed (l := true) h
  | ms => exact vMs_typed h
  | secs => exact vSecs_typed h
  | enum vals => exact vEnum_typed h
  | pow2 => exact (hp rfl).elim
  | boolInt => exact vBoolInt_typed h

theorem validateElems_ok {chk : Bool} {vd : V} : ∀ {ys : List Y} {out : Item}, validateElems chk vd ys = .ok out →
    ∃ vs, out = .list vs ∧ ys.map (validateItem vd) = vs.map .ok
  | [], _, h => by cases h; exact ⟨[], rfl, rfl⟩
  | y :: rest, _, h => by
    unfold validateElems at h
    split at h
    · cases h
    · generalize hv : validateItem vd y = r at h
      generalize hr : validateElems chk vd rest = r' at h
      rcases r with v | _ | _ | _ <;> try cases h
      rcases r' with o | _ | _ | _ <;> try cases h
      obtain ⟨vs, rfl, hm⟩ := validateElems_ok hr
      cases h
      exact ⟨v :: vs, rfl, by rw [List.map_cons, hv, hm, List.map_cons]⟩

theorem validatePairs_typed {kvd vvd : V} (hk : kvd ≠ .pow2) (hv : vvd ≠ .pow2) :
    ∀ {kvs : List (Y × Y)} {out : Item}, validatePairs kvd vvd kvs = .ok out →
      ∃ ps, out = .dict ps ∧ ∀ p ∈ ps, HasType kvd p.1 = true ∧ HasType vvd p.2 = true
  | [], _, h => by cases h; exact ⟨[], rfl, fun _ hp => absurd hp List.not_mem_nil⟩
  | (k, v) :: rest, _, h => by
    unfold validatePairs at h
    split at h
    · rename_i k' v' hkk hvv
      generalize hr : validatePairs kvd vvd rest = r' at h
      rcases r' with o | _ | _ | _ <;> try cases h
      obtain ⟨ps, rfl, hty⟩ := validatePairs_typed hk hv hr
      dsimp only at h
      split at h <;> cases h
      refine ⟨(k', v') :: ps, rfl, ?_⟩
      simp only [List.forall_mem_cons]
      exact ⟨⟨validateItem_typed hk hkk, validateItem_typed hv hvv⟩, hty⟩
    all_goals cases h

end MpfVerif.C12
