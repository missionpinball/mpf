import MpfVerif.Model.Show
/-! Helper lemmas for C17 (running shows). -/
namespace MpfVerif.Show

theorem cancel_frame {α : Type} (f : RS → α) (hf : ∀ (s : RS) tm hd, f { s with timers := tm, handle := hd } = f s)
    (s : RS) : f (cancelHandle s) = f s := by
  unfold cancelHandle
  cases s.handle with
  | none => rfl
  | some id => exact hf ..

@[simp] theorem cancel_stopped (s : RS) : (cancelHandle s).stopped = s.stopped := cancel_frame (·.stopped) (fun _ _ _ => rfl) s

@[simp] theorem cancel_dirty (s : RS) : (cancelHandle s).dirty = s.dirty := cancel_frame (·.dirty) (fun _ _ _ => rfl) s

@[simp] theorem cancel_loops (s : RS) : (cancelHandle s).loops = s.loops := cancel_frame (·.loops) (fun _ _ _ => rfl) s

@[simp] theorem cancel_known (s : RS) : (cancelHandle s).known = s.known := cancel_frame (·.known) (fun _ _ _ => rfl) s

@[simp] theorem cancel_started (s : RS) : (cancelHandle s).started = s.started := cancel_frame (·.started) (fun _ _ _ => rfl) s

@[simp] theorem cancel_pending (s : RS) : (cancelHandle s).pending = s.pending := cancel_frame (·.pending) (fun _ _ _ => rfl) s

@[simp] theorem playStep_out (s : RS) (idx : Nat) (evs : List Ev) (pa : Bool) :
    (playStep s idx evs pa).2 = Obs.eff idx s.nextTime :: evs.map Obs.ev := rfl

theorem playStep_frame {α : Type} (f : RS → α)
    (hf : ∀ (s : RS) i nt tm hd nid,
      f { s with nextIdx := i, dirty := true, nextTime := nt, timers := tm, handle := hd, nextId := nid } = f s)
    (s : RS) (idx : Nat) (evs : List Ev) (pa : Bool) : f (playStep s idx evs pa).1 = f s := by
  unfold playStep
  by_cases h : (!s.manual && decide (0 < ttn s idx) && !pa) = true
  · simp only [h, if_true]; exact hf ..
  · simp only [h]; exact hf s _ s.nextTime s.timers s.handle s.nextId

@[simp] theorem playStep_stopped (s : RS) (idx : Nat) (evs : List Ev) (pa : Bool) :
    (playStep s idx evs pa).1.stopped = s.stopped := playStep_frame (·.stopped) (fun _ _ _ _ _ _ => rfl) s idx evs pa

@[simp] theorem playStep_loops (s : RS) (idx : Nat) (evs : List Ev) (pa : Bool) :
    (playStep s idx evs pa).1.loops = s.loops := playStep_frame (·.loops) (fun _ _ _ _ _ _ => rfl) s idx evs pa

@[simp] theorem playStep_known (s : RS) (idx : Nat) (evs : List Ev) (pa : Bool) :
    (playStep s idx evs pa).1.known = s.known := playStep_frame (·.known) (fun _ _ _ _ _ _ => rfl) s idx evs pa

@[simp] theorem playStep_started (s : RS) (idx : Nat) (evs : List Ev) (pa : Bool) :
    (playStep s idx evs pa).1.started = s.started := playStep_frame (·.started) (fun _ _ _ _ _ _ => rfl) s idx evs pa

@[simp] theorem playStep_pending (s : RS) (idx : Nat) (evs : List Ev) (pa : Bool) :
    (playStep s idx evs pa).1.pending = s.pending := playStep_frame (·.pending) (fun _ _ _ _ _ _ => rfl) s idx evs pa

theorem stop_of_stopped (s : RS) (h : s.stopped = true) : stop s = (s, []) := by rw [stop, if_pos h]

theorem stop_running (s : RS) (h : s.stopped = false) :
    stop s = ({ cancelHandle { s with stopped := true } with dirty := false },
      (if s.dirty then [Obs.clr] else []) ++ [Obs.ev .stopped]) := by
  rw [stop, if_neg (by rw [h]; exact Bool.false_ne_true)]

theorem stop_out (s : RS) (h : s.stopped = false) :
    (stop s).2 = (if s.dirty then [Obs.clr] else []) ++ [Obs.ev .stopped] := by rw [stop_running s h]

@[simp] theorem stop_stopped (s : RS) : (stop s).1.stopped = true := by
  cases h : s.stopped with
  | true => rw [stop_of_stopped s h]; exact h
  | false => rw [stop_running s h]; exact cancel_stopped _

theorem stop_frame {α : Type} (f : RS → α)
    (hf : ∀ (s : RS) st d tm hd, f { s with stopped := st, dirty := d, timers := tm, handle := hd } = f s) (s : RS) :
    f (stop s).1 = f s := by
  cases h : s.stopped with
  | true => rw [stop_of_stopped s h]
  | false =>
    rw [stop_running s h]
    unfold cancelHandle
    cases s.handle with
    | none => exact hf s true false s.timers none
    | some id => exact hf s true false _ none

@[simp] theorem stop_loops (s : RS) : (stop s).1.loops = s.loops := stop_frame (·.loops) (fun _ _ _ _ _ => rfl) s

@[simp] theorem stop_known (s : RS) : (stop s).1.known = s.known := stop_frame (·.known) (fun _ _ _ _ _ => rfl) s

@[simp] theorem stop_started (s : RS) : (stop s).1.started = s.started := stop_frame (·.started) (fun _ _ _ _ _ => rfl) s

@[simp] theorem stop_pending (s : RS) : (stop s).1.pending = s.pending := stop_frame (·.pending) (fun _ _ _ _ _ => rfl) s

theorem runNext_stopped (s : RS) (post : List Ev) (pa : Bool) (h : s.stopped = true) : runNext s post pa = (s, []) := by
  simp [runNext, h]

/-- the index `_run_next_step` looks at: a negative `next_step_index` (left by `step_back`) counts from the end -/
def curStep (s : RS) : Int := if s.nextIdx < 0 then s.nextIdx % (s.durs.length : Int) else s.nextIdx

theorem runNext_elim {C : RS × List Obs → Prop} (s : RS) (post : List Ev) (pa : Bool) (hs : s.stopped = false)
    (inside : curStep s < s.durs.length → C (playStep s (curStep s).toNat post pa))
    (forever : (s.durs.length : Int) ≤ curStep s → s.loops = none → C (playStep s 0 (post ++ [Ev.looped]) pa))
    (again : ∀ n, (s.durs.length : Int) ≤ curStep s → s.loops = some (n + 1) →
      C (playStep { s with loops := some n } 0 (post ++ [Ev.looped]) pa))
    (done : (s.durs.length : Int) ≤ curStep s → s.loops = some 0 →
      C ((stop s).1, (stop s).2 ++ (post ++ [Ev.completed]).map Obs.ev)) :
    C (runNext s post pa) := by
  unfold runNext
  rw [if_neg (by simp [hs])]
  show C (if curStep s ≥ (s.durs.length : Int) then _ else _)
  by_cases hw : curStep s ≥ (s.durs.length : Int)
  · rw [if_pos hw]
    cases hl : s.loops with
    | none => exact forever hw hl
    | some n =>
      cases n with
      | zero => exact done hw hl
      | succ n => exact again n hw hl
  · rw [if_neg hw]; exact inside (by omega)

theorem runNext_frame {α : Type} (f : RS → α) (hp : ∀ s i evs pa, f (playStep s i evs pa).1 = f s)
    (hl : ∀ (s : RS) n, f { s with loops := n } = f s) (hst : ∀ s, f (stop s).1 = f s)
    (s : RS) (post : List Ev) (pa : Bool) : f (runNext s post pa).1 = f s := by
  cases hs : s.stopped with
  | true => rw [runNext_stopped _ _ _ hs]
  | false =>
    refine runNext_elim (C := fun r => f r.1 = f s) s post pa hs ?_ ?_ ?_ ?_
    · intro _; exact hp ..
    · intro _ _; exact hp ..
    · intro n _ _; rw [hp, hl]
    · intro _ _; exact hst s

@[simp] theorem runNext_started (s : RS) (post : List Ev) (pa : Bool) : (runNext s post pa).1.started = s.started :=
  runNext_frame (·.started) (by simp) (fun _ _ => rfl) (by simp) s post pa

@[simp] theorem runNext_pending (s : RS) (post : List Ev) (pa : Bool) : (runNext s post pa).1.pending = s.pending :=
  runNext_frame (·.pending) (by simp) (fun _ _ => rfl) (by simp) s post pa

@[simp] theorem runNext_known (s : RS) (post : List Ev) (pa : Bool) : (runNext s post pa).1.known = s.known :=
  runNext_frame (·.known) (by simp) (fun _ _ => rfl) (by simp) s post pa

/-- what `reqBody` (`post`: the request's own event) and `timerBody` (`post` empty) have in common: nothing on a stopped
show, `_start_now` of one that waits for its synchronised start, else `_run_next_step` -/
inductive Body (s : RS) (post : List Ev) : RS × List Obs → Prop
  | stopped : s.stopped = true → Body s post (s, [])
  | start (nt : Nat) : s.stopped = false → s.pending = true →
      Body s post (runNext { s with nextTime := nt, pending := false, started := true } [.played] s.pauseAfter)
  | next (nt : Nat) (ni : Int) : s.stopped = false → s.pending = false →
      Body s post (runNext { s with nextTime := nt, nextIdx := ni } post false)

theorem reqBody_body (s : RS) (ev : Ev) (back : Bool) : Body s [ev] (reqBody s ev back) := by
  unfold reqBody
  by_cases hs : s.stopped = true
  · rw [if_pos hs]; exact .stopped hs
  · rw [if_neg hs]
    by_cases hp : s.pending = true
    · rw [if_pos hp]; exact .start _ (eq_false_of_ne_true hs) hp
    · rw [if_neg hp]; exact .next _ _ (eq_false_of_ne_true hs) (eq_false_of_ne_true hp)

theorem timerBody_body (s : RS) : Body s [] (timerBody s) := by
  unfold timerBody
  by_cases hs : s.stopped = true
  · rw [if_pos hs]; exact .stopped hs
  · rw [if_neg hs]
    by_cases hp : s.pending = true
    · rw [if_pos hp]; exact .start s.nextTime (eq_false_of_ne_true hs) hp
    · rw [if_neg hp]; exact .next s.nextTime s.nextIdx (eq_false_of_ne_true hs) (eq_false_of_ne_true hp)

theorem body_of_stopped {s : RS} {post : List Ev} {r : RS × List Obs} (hb : Body s post r) (hs : s.stopped = true) :
    r = (s, []) := by
  cases hb with
  | stopped => rfl
  | start _ h | next _ _ h => cases h.symm.trans hs

theorem body_known {s : RS} {post : List Ev} {r : RS × List Obs} (hb : Body s post r) : r.1.known = s.known := by
  cases hb <;> simp

theorem step_play_init (durs : List Nat) (num den : Nat) (loops : Option Nat) (start : Int) (running manual : Bool)
    (sync t : Nat) :
    step {} (.play durs num den loops start running manual sync t) =
      startPlay { durs := durs, spNum := num, spDen := den, loops := loops, manual := manual,
                  nextIdx := startIdx start durs.length, nextTime := t, stopped := false, now := t, known := true }
        running sync := by
  simp [step, stop, setNow]

def Op.isPlay : Op → Bool
  | .play .. => true
  | _ => false

theorem dueAny_mem (s : RS) (tm : Nat × Nat) (h : dueAny s = some tm) : tm ∈ s.timers :=
  List.mem_of_find?_eq_some h

theorem filter_only {l : List (Nat × Nat)} {tm : Nat × Nat} (hl : l.length ≤ 1) (hm : tm ∈ l) :
    l.filter (fun x => decide (x.1 ≠ tm.1)) = [] := by
  match l, hl, hm with
  | [x], _, hm =>
    obtain rfl : tm = x := by simpa using hm
    simp

theorem step_fire (s : RS) (t : Nat) (h : s.timers.length ≤ 1) :
    step s (.fire t) =
      if (dueAny (setNow s t)).isSome then timerBody { setNow s t with timers := [] } else (setNow s t, []) := by
  simp only [step]
  cases hd : dueAny (setNow s t) with
  | none => rfl
  | some tm => simp only [filter_only (l := (setNow s t).timers) h (dueAny_mem _ _ hd)]; rfl

theorem step_elim {C : RS × List Obs → Prop} (s : RS) (o : Op) (hp : o.isPlay = false)
    (quiet : ∀ n num den, C ({ s with now := n, spNum := num, spDen := den }, []))
    (pause : ∀ t, C (cancelHandle (setNow s t), [Obs.ev .paused]))
    (stop : ∀ t, C ({ (stop (setNow s t)).1 with known := false }, (stop (setNow s t)).2))
    (req : ∀ t ev r, ev ∈ [Ev.resumed, .advanced, .steppedBack] → Body (cancelHandle (setNow s t)) [ev] r → C r)
    (fire : ∀ t tm r, tm ∈ s.timers →
      Body { setNow s t with timers := s.timers.filter (fun x => decide (x.1 ≠ tm.1)) } [] r → C r) :
    C (step s o) := by
  have ctl_ : ∀ t f, C (f (setNow s t)) → C (ctl s t f) := fun t f h => by
    unfold ctl
    by_cases hk : s.known = true
    · rw [if_pos hk]; exact h
    · rw [if_neg hk]; exact quiet ..
  cases o with
  | play durs num den loops start running manual sync t => cases hp
  | stop t =>
    simp only [step]
    exact ctl_ t _ (stop t)
  | pause t =>
    simp only [step]
    exact ctl_ t _ (pause t)
  | resume t | advance t | back t =>
    simp only [step]
    exact ctl_ t _ (req t _ _ (by simp) (reqBody_body ..))
  | speed num den t =>
    simp only [step]
    exact ctl_ t _ (quiet ..)
  | fire t =>
    show C (match dueAny (setNow s t) with | none => _ | some tm => _)
    cases hd : dueAny (setNow s t) with
    | none => exact quiet ..
    | some tm => exact fire t tm _ (dueAny_mem (setNow s t) tm hd) (timerBody_body _)

/-- at most one live timer, and it is the one the show can cancel; a stopped show has none and a clean context -/
def Inv (s : RS) : Prop :=
  (s.timers = [] ∨ ∃ id w, s.timers = [(id, w)] ∧ s.handle = some id) ∧
  (s.stopped = true → s.timers = [] ∧ s.dirty = false)

theorem init_inv : Inv ({} : RS) := ⟨Or.inl rfl, fun _ => ⟨rfl, rfl⟩⟩

theorem Inv.single {s : RS} (h : Inv s) : s.timers = [] ∨ ∃ id w, s.timers = [(id, w)] ∧ s.handle = some id := h.1

theorem Inv.timers_nil {s : RS} (h : Inv s) (hs : s.stopped = true) : s.timers = [] := (h.2 hs).1

theorem Inv.clean {s : RS} (h : Inv s) (hs : s.stopped = true) : s.dirty = false := (h.2 hs).2

theorem inv_of_nil (s : RS) (ht : s.timers = []) (hd : s.stopped = true → s.dirty = false) : Inv s :=
  ⟨Or.inl ht, fun hs => ⟨ht, hd hs⟩⟩

theorem Inv.length_le {s : RS} (h : Inv s) : s.timers.length ≤ 1 := by
  rcases h.single with h | ⟨_, _, h, _⟩ <;> simp [h]

theorem cancel_timers (s : RS) (h : s.timers = [] ∨ ∃ id w, s.timers = [(id, w)] ∧ s.handle = some id) :
    (cancelHandle s).timers = [] := by
  unfold cancelHandle
  rcases h with h | ⟨id, w, ht, hh⟩
  · cases s.handle <;> simp [h]
  · simp [hh, ht]

theorem cancel_inv (s : RS) (h : Inv s) : Inv (cancelHandle s) :=
  inv_of_nil _ (cancel_timers _ h.single) (by simpa using h.clean)

theorem stop_inv (s : RS) (h : Inv s) : Inv (stop s).1 := by
  cases hs : s.stopped with
  | true => rw [stop_of_stopped s hs]; exact h
  | false => rw [stop_running s hs]; exact inv_of_nil _ (cancel_timers { s with stopped := true } h.single) (fun _ => rfl)

theorem playStep_inv (s : RS) (idx : Nat) (evs : List Ev) (pa : Bool) (ht : s.timers = []) (hs : s.stopped = false) :
    Inv (playStep s idx evs pa).1 := by
  unfold playStep
  by_cases h : (!s.manual && decide (0 < ttn s idx) && !pa) = true
  · simp only [h, if_true]
    exact ⟨Or.inr ⟨s.nextId, s.nextTime + ttn s idx, by rw [ht]; rfl, rfl⟩, fun h' => by rw [hs] at h'; cases h'⟩
  · simp only [h]
    exact ⟨Or.inl ht, fun h' => by rw [hs] at h'; cases h'⟩

theorem runNext_inv (s : RS) (post : List Ev) (pa : Bool) (ht : s.timers = []) (hs : s.stopped = false) :
    Inv (runNext s post pa).1 := by
  refine runNext_elim (C := fun r => Inv r.1) s post pa hs ?_ ?_ ?_ ?_
  · intro _; exact playStep_inv _ _ _ _ ht hs
  · intro _ _; exact playStep_inv _ _ _ _ ht hs
  · intro n _ _; exact playStep_inv _ _ _ _ ht hs
  · intro _ _; exact stop_inv s (inv_of_nil s ht (by simp [hs]))

theorem startPlay_inv (s0 : RS) (running : Bool) (sync : Nat) (ht : s0.timers = []) (hs : s0.stopped = false) :
    Inv (startPlay s0 running sync).1 := by
  unfold startPlay
  by_cases h : sync = 0
  · rw [if_pos h]; exact runNext_inv _ _ _ ht hs
  · rw [if_neg h]
    exact ⟨Or.inr ⟨s0.nextId, syncTime sync s0.nextTime, by rw [ht]; rfl, rfl⟩, fun h' => by rw [hs] at h'; cases h'⟩

theorem body_inv {s : RS} {post : List Ev} {r : RS × List Obs} (hb : Body s post r) (ht : s.timers = []) (hi : Inv s) :
    Inv r.1 := by
  cases hb with
  | stopped => exact hi
  | start _ hs | next _ _ hs => exact runNext_inv _ _ _ ht hs

theorem step_inv (s : RS) (o : Op) (h : Inv s) : Inv (step s o).1 := by
  cases ho : o.isPlay with
  | true =>
    cases o with
    | play durs num den loops start running manual sync t =>
      have h1 : Inv (stop (setNow s t)).1 := stop_inv _ h
      exact startPlay_inv _ _ _ (h1.timers_nil (stop_stopped _)) rfl
    | _ => cases ho
  | false =>
    refine step_elim (C := fun r => Inv r.1) s o ho ?_ ?_ ?_ ?_ ?_
    · intro _ _ _; exact h
    · intro t; exact cancel_inv (setNow s t) h
    · intro t; exact stop_inv (setNow s t) h
    · intro t _ _ _ hb; exact body_inv hb (cancel_timers (setNow s t) h.single) (cancel_inv (setNow s t) h)
    · intro t tm _ hm hb
      rw [filter_only h.length_le hm] at hb
      exact body_inv hb rfl (inv_of_nil _ rfl h.clean)

theorem run_induct {I : RS → List Obs → Prop} {Q : Op → Prop}
    (hstep : ∀ s tr o, Q o → I s tr → I (step s o).1 (tr ++ (step s o).2)) :
    ∀ (ops : List Op) (s : RS) (tr : List Obs), (∀ o ∈ ops, Q o) → I s tr → I (run s ops).1 (tr ++ (run s ops).2)
  | [], s, tr, _, h => by simpa [run] using h
  | o :: r, s, tr, hq, h => by
    simp only [run]
    rw [← List.append_assoc]
    exact run_induct hstep r _ _ (fun x hx => hq x (List.mem_cons_of_mem _ hx)) (hstep s tr o (hq o List.mem_cons_self) h)

theorem run_inv (ops : List Op) (s : RS) (h : Inv s) : Inv (run s ops).1 :=
  run_induct (I := fun s _ => Inv s) (Q := fun _ => True) (fun s _ o _ => step_inv s o) ops s [] (fun _ _ => trivial) h

/-- what a stopped show may still emit: the acknowledgement of a pause request, nothing else -/
def onlyPaused (l : List Obs) : Prop := ∀ o ∈ l, o = Obs.ev .paused

theorem step_after_stop (s : RS) (o : Op) (hs : s.stopped = true) (hp : o.isPlay = false) :
    (step s o).1.stopped = true ∧ onlyPaused (step s o).2 := by
  have nil : onlyPaused [] := fun _ h => nomatch h
  refine step_elim (C := fun r => r.1.stopped = true ∧ onlyPaused r.2) s o hp ?_ ?_ ?_ ?_ ?_
  · intro _ _ _; exact ⟨hs, nil⟩
  · intro t; exact ⟨(cancel_stopped _).trans hs, by simp [onlyPaused]⟩
  · intro t; rw [stop_of_stopped (setNow s t) hs]; exact ⟨hs, nil⟩
  · intro t ev r _ hb
    rw [body_of_stopped hb ((cancel_stopped (setNow s t)).trans hs)]
    exact ⟨(cancel_stopped _).trans hs, nil⟩
  · intro t tm r _ hb
    rw [body_of_stopped hb hs]
    exact ⟨hs, nil⟩

/-- a show instance is in the show player's dict (`known`) or stopped: `stop` is the only request that removes it -/
def KnownInv (s : RS) : Prop := s.stopped = true ∨ s.known = true

theorem step_knownInv (s : RS) (o : Op) (h : KnownInv s) : KnownInv (step s o).1 := by
  cases ho : o.isPlay with
  | true =>
    cases o with
    | play durs num den loops start running manual sync t =>
      right
      simp only [step, startPlay]
      by_cases hsync : sync = 0
      · rw [if_pos hsync]; exact runNext_known ..
      · rw [if_neg hsync]  -- the waiting instance is the new record itself: `known := true`
    | _ => cases ho
  | false =>
    refine h.elim (fun hs => Or.inl (step_after_stop s o hs ho).1) fun hk => ?_
    refine step_elim (C := fun r => KnownInv r.1) s o ho ?_ ?_ ?_ ?_ ?_
    · intro _ _ _; exact Or.inr hk
    · intro t; exact Or.inr ((cancel_known _).trans hk)
    · intro t; exact Or.inl (stop_stopped _)
    · intro t ev r _ hb; exact Or.inr ((body_known hb).trans ((cancel_known _).trans hk))
    · intro t tm r _ hb; exact Or.inr ((body_known hb).trans hk)

theorem stop_req_stops (s : RS) (t : Nat) (h : KnownInv s) : (step s (.stop t)).1.stopped = true := by
  simp only [step, ctl]
  by_cases hk : s.known = true
  · rw [if_pos hk]; exact stop_stopped _
  · rw [if_neg hk]; exact h.resolve_right hk

def nxt (total i : Nat) : Nat := if i + 1 ≥ total then 0 else i + 1

def stepDur (durs : List Nat) (num den i : Nat) : Nat := durs.getD i 0 * den / num

/-- the absolute schedule: `k` steps from step `i` at time `t` -/
def sched (durs : List Nat) (num den : Nat) : Nat → Nat → Nat → List Obs
  | 0, _, _ => []
  | k + 1, i, t => Obs.eff i t :: sched durs num den k (nxt durs.length i) (t + stepDur durs num den i)

def isEff : Obs → Bool
  | .eff .. => true
  | _ => false

def effs (l : List Obs) : List Obs := l.filter isEff

theorem effs_append (a b : List Obs) : effs (a ++ b) = effs a ++ effs b := by simp [effs]

@[simp] theorem effs_nil : effs [] = [] := rfl

@[simp] theorem effs_cons_eff (i t : Nat) (l : List Obs) : effs (Obs.eff i t :: l) = Obs.eff i t :: effs l := rfl

@[simp] theorem effs_cons_ev (e : Ev) (l : List Obs) : effs (Obs.ev e :: l) = effs l := rfl

@[simp] theorem effs_evs : ∀ (l : List Ev), effs (l.map Obs.ev) = []
  | [] => rfl
  | _ :: r => effs_evs r

theorem sched_prefix_succ (durs : List Nat) (num den : Nat) : ∀ k i t,
    sched durs num den k i t <+: sched durs num den (k + 1) i t := by
  intro k
  induction k with
  | zero => intro i t; exact List.nil_prefix
  | succ k ih => intro i t; exact (List.cons_prefix_cons).mpr ⟨rfl, ih _ _⟩

/-- the step `_run_next_step` plays for `next_step_index = j ≥ 0`: `j` itself, or step 0 after the end of the show -/
def wrapIdx (total j : Nat) : Nat := if j < total then j else 0

theorem nxt_eq_wrap (total i : Nat) : nxt total i = wrapIdx total (i + 1) := by
  unfold nxt wrapIdx
  by_cases h : i + 1 < total
  · rw [if_pos h, if_neg (by omega)]
  · rw [if_neg h, if_pos (by omega)]

/-- the single timer `id` of the running show `s` is due at `T` for step `i` (`next_step_index = j`) of the given show: the
next step, or the synchronised start.  No field speaks of `now`: the clock may run on. -/
structure Due (durs : List Nat) (num den : Nat) (s : RS) (i T id j : Nat) : Prop where
  running : s.stopped = false
  noPause : s.pending = true → s.pauseAfter = false
  durs_eq : s.durs = durs
  num_eq : s.spNum = num
  den_eq : s.spDen = den
  time_eq : s.nextTime = T
  timer : s.timers = [(id, T)]
  idx_eq : s.nextIdx = (j : Int)
  step_eq : wrapIdx durs.length j = i

/-- the show is stopped/idle, or on schedule -/
def Sch (durs : List Nat) (num den : Nat) (s : RS) (i T : Nat) : Prop :=
  s.timers = [] ∨ ∃ id j, Due durs num den s i T id j

/-- `r` played nothing and the timer still stands for `(i, T)`, or it played exactly `eff i T` and the timer stands for the
next slot -/
def Plays (durs : List Nat) (num den : Nat) (r : RS × List Obs) (i T : Nat) : Prop :=
  (effs r.2 = [] ∧ Sch durs num den r.1 i T) ∨
  (effs r.2 = [Obs.eff i T] ∧ Sch durs num den r.1 (nxt durs.length i) (T + stepDur durs num den i))

def fires (ts : List Nat) : List Op := ts.map Op.fire

theorem playStep_sch (s : RS) (idx : Nat) (evs : List Ev) (ht : s.timers = []) (hs : s.stopped = false)
    (hp : s.pending = false) :
    Sch s.durs s.spNum s.spDen (playStep s idx evs false).1 (nxt s.durs.length idx)
      (s.nextTime + stepDur s.durs s.spNum s.spDen idx) := by
  unfold playStep
  dsimp only
  split
  · exact Or.inr ⟨s.nextId, idx + 1,
      { running := hs, noPause := by simp [hp], durs_eq := rfl, num_eq := rfl, den_eq := rfl, time_eq := rfl,
        timer := by simp [ht, ttn, stepDur], idx_eq := rfl, step_eq := (nxt_eq_wrap _ _).symm }⟩
  · exact Or.inl ht

theorem effs_stop (s : RS) : effs (stop s).2 = [] := by
  cases h : s.stopped with
  | true => rw [stop_of_stopped s h]; rfl
  | false => rw [stop_running s h]; cases s.dirty <;> rfl

theorem stop_timers (s : RS) (ht : s.timers = []) : (stop s).1.timers = [] := by
  cases h : s.stopped with
  | true => rw [stop_of_stopped s h]; exact ht
  | false => rw [stop_running s h]; exact cancel_timers { s with stopped := true } (Or.inl ht)

-- stated for `durs num den T` and four equations: with `s.durs …` in the conclusion the callers' `exact` unifies through record
-- projections, which is slow to check
theorem runNext_at {durs : List Nat} {num den T : Nat} (s : RS) (j : Nat) (post : List Ev) (hs : s.stopped = false)
    (hp : s.pending = false) (ht : s.timers = []) (hi : s.nextIdx = (j : Int)) (hd : s.durs = durs) (hn : s.spNum = num)
    (hdn : s.spDen = den) (hT : s.nextTime = T) :
    Plays durs num den (runNext s post false) (wrapIdx durs.length j) T := by
  subst hd hn hdn hT
  have hc : curStep s = j := by rw [curStep, hi, if_neg (by omega)]
  have hin : (j : Int) < s.durs.length → wrapIdx s.durs.length j = j := fun h => by rw [wrapIdx, if_pos (by omega)]
  have hout : (s.durs.length : Int) ≤ j → wrapIdx s.durs.length j = 0 := fun h => by rw [wrapIdx, if_neg (by omega)]
  have plays : ∀ (s' : RS) i evs, s'.timers = [] → s'.stopped = false → s'.pending = false →
      Plays s'.durs s'.spNum s'.spDen (playStep s' i evs false) i s'.nextTime := fun s' i evs a b c =>
    Or.inr ⟨by rw [playStep_out, effs_cons_eff, effs_evs], playStep_sch s' i evs a b c⟩
  refine runNext_elim (C := fun r => Plays s.durs s.spNum s.spDen r _ _) s post false hs ?_ ?_ ?_ ?_ <;> rw [hc]
  · intro h; rw [hin h, Int.toNat_natCast]; exact plays s j _ ht hs hp
  · intro h _; rw [hout h]; exact plays s 0 _ ht hs hp
  · intro n h _; rw [hout h]; exact plays { s with loops := some n } 0 _ ht hs hp
  · intro h _; rw [hout h]
    exact Or.inl ⟨by rw [effs_append, effs_stop, effs_evs]; rfl, Or.inl (stop_timers s ht)⟩

theorem fire_sch (durs : List Nat) (num den : Nat) (s : RS) (i T t : Nat) (h : Sch durs num den s i T) :
    Plays durs num den (step s (.fire t)) i T := by
  have hsch : Sch durs num den (setNow s t) i T := h.imp id fun ⟨id, j, d⟩ => ⟨id, j, { d with }⟩
  rcases h with h | ⟨id, j, d⟩
  · rw [step_fire s t (by rw [h]; exact Nat.zero_le 1)]
    have : dueAny (setNow s t) = none := by rw [dueAny, show (setNow s t).timers = [] from h]; rfl
    rw [this]
    exact Or.inl ⟨rfl, hsch⟩
  · rw [step_fire s t (by rw [d.timer]; exact Nat.le_refl 1)]
    by_cases hdue : (dueAny (setNow s t)).isSome = true
    · rw [if_pos hdue, ← d.step_eq]
      unfold timerBody
      rw [if_neg (by simp [setNow, d.running])]
      split
      · rename_i hp
        rw [show (setNow s t).pauseAfter = false from d.noPause hp]
        exact runNext_at _ j _ d.running rfl rfl d.idx_eq d.durs_eq d.num_eq d.den_eq d.time_eq
      · rename_i hp
        exact runNext_at _ j _ d.running (eq_false_of_ne_true hp) rfl d.idx_eq d.durs_eq d.num_eq d.den_eq d.time_eq
    · rw [if_neg hdue]
      exact Or.inl ⟨rfl, hsch⟩

theorem plays_prefix (durs : List Nat) (num den k : Nat) (r : RS × List Obs) (i T : Nat) (h : Plays durs num den r i T)
    (rest : List Obs) (hr : ∀ i T, Sch durs num den r.1 i T → effs rest <+: sched durs num den k i T) :
    effs (r.2 ++ rest) <+: sched durs num den (k + 1) i T := by
  rw [effs_append]
  rcases h with ⟨he, h⟩ | ⟨he, h⟩
  · rw [he]; exact (hr i T h).trans (sched_prefix_succ ..)
  · rw [he]; exact (List.cons_prefix_cons).mpr ⟨rfl, hr _ _ h⟩

theorem fires_follow_schedule (durs : List Nat) (num den : Nat) (ts : List Nat) : ∀ (s : RS) (i T : Nat),
    Sch durs num den s i T → effs (run s (fires ts)).2 <+: sched durs num den ts.length i T := by
  induction ts with
  | nil => intro s i T _; exact List.nil_prefix
  | cons t ts ih =>
    intro s i T h
    exact plays_prefix durs num den ts.length (step s (.fire t)) i T (fire_sch durs num den s i T t h) _ (ih _)

theorem startIdx_nonneg (start : Int) (total : Nat) (h : 0 < total) : 0 ≤ startIdx start total := by
  unfold startIdx
  split
  · omega
  · split
    · exact Int.emod_nonneg _ (by omega)
    · omega

/-- the step a freshly played show starts with: `start_step` (1-based), a negative one counted from the end, the first
step for 0 and for a value beyond the end -/
def firstIdx (start : Int) (total : Nat) : Nat := wrapIdx total (startIdx start total).toNat

theorem play_plays (durs : List Nat) (num den : Nat) (loops : Option Nat) (start : Int) (manual : Bool) (t0 : Nat)
    (hlen : 0 < durs.length) :
    Plays durs num den (step {} (.play durs num den loops start true manual 0 t0)) (firstIdx start durs.length) t0 := by
  rw [step_play_init]
  simp only [startPlay, if_true, Bool.not_true]
  exact runNext_at _ _ [.played] rfl rfl rfl (Int.toNat_of_nonneg (startIdx_nonneg start _ hlen)).symm rfl rfl rfl rfl

theorem play_sync (durs : List Nat) (num den : Nat) (loops : Option Nat) (start : Int) (manual : Bool) (sync t0 : Nat)
    (hlen : 0 < durs.length) (hsync : sync ≠ 0) :
    (step {} (.play durs num den loops start true manual sync t0)).2 = [] ∧
    Sch durs num den (step {} (.play durs num den loops start true manual sync t0)).1 (firstIdx start durs.length)
      (syncTime sync t0) := by
  rw [step_play_init, startPlay, if_neg hsync]
  exact ⟨rfl, Or.inr ⟨0, _,
    { running := rfl, noPause := fun _ => rfl, durs_eq := rfl, num_eq := rfl, den_eq := rfl, time_eq := rfl, timer := rfl,
      idx_eq := (Int.toNat_of_nonneg (startIdx_nonneg start _ hlen)).symm, step_eq := rfl }⟩⟩

end MpfVerif.Show
