import MpfVerif.Model.CreditsGen
import MpfVerif.Lemmas.PyStore
/-!
# The hand model of the credits handlers does what the generated programs do (C20)
For seven of the translated handlers of `Gen/CreditsOps.lean`: `genRun c s <program> <args>` = the hand function of
`Model/Credits.lean`, no action without a meaning, and the result.
-/
namespace MpfVerif.Credits
open MpfVerif.Py MpfVerif.Gen.CreditsOps

-- two ints as `pyCmp` compares them: `PyVal.num` scales by 10^6 (fixed point), then `cmpOp`, clause by clause
theorem pyCmp_int (op : String) (a b : Int) : pyCmp op (.int a) (.int b) = .ok (cmpOp op (a * 1000000) (b * 1000000)) := rfl
theorem cmp_lt (x y : Int) : cmpOp "<" x y = decide (x < y) := rfl
theorem cmp_gt (x y : Int) : cmpOp ">" x y = decide (x > y) := rfl
theorem cmp_ge (x y : Int) : cmpOp ">=" x y = decide (x ≥ y) := rfl
theorem cmp_le (x y : Int) : cmpOp "<=" x y = decide (x ≤ y) := rfl
theorem cmp_eq (x y : Int) : cmpOp "==" x y = decide (x = y) := rfl
theorem cmp_ne (x y : Int) : cmpOp "!=" x y = decide (x ≠ y) := rfl
theorem scale_lt (a b : Int) : (a * 1000000 < b * 1000000) = (a < b) := by apply propext; omega
theorem scale_le (a b : Int) : (a * 1000000 ≤ b * 1000000) = (a ≤ b) := by apply propext; omega
theorem scale_eq (a b : Int) : (a * 1000000 = b * 1000000) = (a = b) := by apply propext; omega
theorem scale_lt0 (a : Int) : (a * 1000000 < 0) = (a < 0) := by apply propext; omega
theorem scale_le0 (a : Int) : (a * 1000000 ≤ 0) = (a ≤ 0) := by apply propext; omega

attribute [pystore] applyEff intOf

@[pystore] theorem sigma_reads (c : Cfg) (s : St) :
    sigma c s "mv:credit_units" = .int s.units ∧
    sigma c s "set:free_play" = .bool s.freePlay ∧
    sigma c s "credit_units_per_game" = .int (upg c) := by
  simp [sigma]

/-- `_get_credit_units()` returns the machine variable, 0 when it is falsy (None / 0) -/
def unitsOf (v : PyVal) : PyVal := if v.truthy then v else .int 0
@[pystore] theorem unitsOf_int (u : Int) : unitsOf (.int u) = .int u := by
  unfold unitsOf PyVal.truthy
  by_cases h : u = 0 <;> simp [h]

@[pystore] theorem get_units_run (c : SCtx) (l : Locals) (st : SState) :
    runS c l st p_get_credit_units = (st, .ok (unitsOf (st.σ "mv:credit_units"))) := by
  rw [runS, unitsOf]
  cases h : (st.σ "mv:credit_units").truthy <;> simp [p_get_credit_units, pystore, h]

theorem game_started_gen (c : Cfg) (s : St) (hf : s.freePlay = false) :
    genRun c s p_game_started [] = (core (gameStarted s), false, some .none) := by
  simp [genRun, callS_eq, p_game_started, pystore, gameStarted, hf]

/-- `_game_ended` by itself: `gameOver` in credit play without the game object going away (that is `game.py`'s doing) -/
theorem game_ended_gen (c : Cfg) (s : St) :
    genRun c s p_game_ended [] = (core { (resetTimeouts c s) with resetThisGame := false }, false, some .none) := by
  -- the first `simp` runs the program as far as the tests it cannot decide; the case split decides them
  simp [genRun, callS_eq, p_game_ended, p_reset_timeouts, pystore, sctx]
  by_cases h1 : c.fracExp = 0 <;> by_cases h2 : c.allExp = 0 <;>
    simp [pystore, resetTimeouts, h1, h2]

/-- the start gate: approved iff a full price is there; a refusal posts `not_enough_credits` -/
theorem request_to_start_gen (c : Cfg) (s : St) (hf : s.freePlay = false) :
    genRun c s p_request_to_start_game [] =
      (core (if enough c s then s else notEnough s), false, some (.bool (enough c s))) := by
  simp [genRun, callS_eq, p_request_to_start_game, pystore]
  by_cases h : s.units ≥ upg c <;> simp [pystore, enough, notEnough, hf, h]

theorem player_add_request_gen (c : Cfg) (s : St) (hf : s.freePlay = false) :
    genRun c s p_player_add_request [] =
      (core (if enough c s then s else notEnough s), false, some (.bool (enough c s))) := by
  simp [genRun, callS_eq, p_player_add_request, pystore]
  by_cases h : s.units ≥ upg c <;> simp [pystore, enough, notEnough, hf, h]

theorem clear_all_gen (c : Cfg) (s : St) :
    genRun c s clear_all_credits [] = (core (clearAll s), false, some .none) := by
  simp [genRun, callS_eq, clear_all_credits, pystore, clearAll, updStrings, core]

theorem clear_fractional_gen (c : Cfg) (s : St) (hu : 0 < upg c) :
    genRun c s p_clear_fractional_credits [] = (core (clearFrac c s), false, some .none) := by
  have h1 : ¬ (upg c = 0) := by omega
  simp [genRun, callS_eq, p_clear_fractional_credits, pystore, clearFrac, updStrings, core, h1, hu]

theorem toggle_gen (c : Cfg) (s : St) :
    genRun c s toggle_credit_play [] = (core (togglePlay c s), false, some .none) := by
  simp [genRun, callS_eq, toggle_credit_play, pystore]
  cases hf : s.freePlay <;> simp [pystore, togglePlay, hf]

end MpfVerif.Credits
