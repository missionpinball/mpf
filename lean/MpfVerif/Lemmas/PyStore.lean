import MpfVerif.Lemmas.PyStoreAttr
import MpfVerif.Model.PyStore
/-!
# Running a program of the stateful interpreter by rewriting

`simp [pystore, p]` runs `p`.  A callee named in the simp set is run in place (`runS_cons`); one that is not is rewritten by
its own `runS` lemma.
-/
namespace MpfVerif.Py
variable (c : SCtx) (l : Locals) (st : SState) (k : Locals → SState → SState × SOut)

def SOut.val : SOut → Except Err PyVal
  | .done v => .ok v
  | .next _ => .ok .none
  | .err x => .error x

def runS (prog : List SSt) : SState × Except Err PyVal :=
  ((execSL c prog l st).1, (execSL c prog l st).2.val)

/-! The clauses of `execSS`, by name (`.ifThen` and `.call` are restated below in the form the runs use; no program proved so far has a `.forRange` or `.index`). -/

@[pystore] theorem execSS_assign (n : String) (e : SEx) :
    execSS c (.assign n e) l st =
      match evalS (c.at st) l e with
      | .ok v => (st, .next (fun m => if m = n then v else l m))
      | .error x => (st, .err x) := by
  rw [execSS]
  rfl

@[pystore] theorem execSS_store (key : String) (e : SEx) :
    execSS c (.store key e) l st =
      match evalS (c.at st) l e with
      | .ok v => (⟨fun m => if m = key then v else st.σ m, st.log ++ [⟨"store", key, [("value", v)]⟩]⟩, .next l)
      | .error x => (st, .err x) := by
  rw [execSS]
  rfl

@[pystore] theorem execSS_raise (e : Err) : execSS c (.raise e) l st = (st, .err e) := by
  rw [execSS]

@[pystore] theorem execSS_ret (e : SEx) :
    execSS c (.ret e) l st =
      match evalS (c.at st) l e with
      | .ok v => (st, .done v)
      | .error x => (st, .err x) := by
  rw [execSS]
  rfl

@[pystore] theorem execSS_eff (obj meth : String) (args : List (String × SEx)) :
    execSS c (.eff obj meth args) l st =
      match evalSArgs (c.at st) l args with
      | .error x => (st, .err x)
      | .ok vs => ({ st with log := st.log ++ [⟨obj, meth, vs⟩] }, .next l) := by
  rw [execSS]
  rfl

theorem execSL_nil : execSL c [] l st = (st, .next l) := by
  rw [execSL]

attribute [pystore] execSL_nil evalS evalE evalC evalSArgs SCtx.at argLocals bindTarget List.lookup binop asInt
  bind Except.bind pure Except.pure SOut.val Except.toOption Eff.arg cmpOp

@[pystore] theorem truthy_eqs : PyVal.none.truthy = false ∧ (∀ b, (PyVal.bool b).truthy = b) ∧
    (∀ i, (PyVal.int i).truthy = (i != 0)) ∧ ∀ s, (PyVal.str s).truthy = (s != "") :=
  ⟨rfl, fun _ => rfl, fun _ => rfl, fun _ => rfl⟩

/-- an undecided condition does not stop the run: both branches run, the proof splits afterwards -/
@[pystore] theorem execSS_ifThen (cd : Cd) (body orelse : List SSt) :
    execSS c (.ifThen cd body orelse) l st =
      match evalC (c.at st) l cd with
      | .ok t => if t then execSL c body l st else execSL c orelse l st
      | .error x => (st, .err x) := by
  rw [execSS]
  rcases evalC (c.at st) l cd with _ | _ | _ <;> rfl

def andThen (r : SState × SOut) : SState × SOut :=
  match r with
  | (st, .next l) => k l st
  | r => r

@[pystore] theorem execSL_cons (s : SSt) (rest : List SSt) :
    execSL c (s :: rest) l st = andThen (execSL c rest) (execSS c s l st) := by
  rw [execSL]
  rfl

@[pystore] theorem andThen_eqs : (∀ l, andThen k (st, .next l) = k l st) ∧ (∀ v, andThen k (st, .done v) = (st, .done v)) ∧
    ∀ x, andThen k (st, .err x) = (st, .err x) :=
  ⟨fun _ => rfl, fun _ => rfl, fun _ => rfl⟩
@[pystore] theorem andThen_nil (r : SState × SOut) : andThen (execSL c []) r = r := by
  rcases r with ⟨st, _ | _ | _⟩ <;> rfl
@[pystore] theorem andThen_ite (t : Prop) [Decidable t] (a b : SState × SOut) :
    andThen k (if t then a else b) = if t then andThen k a else andThen k b := by
  split <;> rfl

@[pystore] theorem execSS_call (t : Option String) (prog : List SSt) (args : List (String × SEx)) :
    execSS c (.call t prog args) l st =
      match evalSArgs (c.at st) l args with
      | .error x => (st, .err x)
      | .ok vs =>
        ((runS c (argLocals vs) st prog).1,
          match (runS c (argLocals vs) st prog).2 with
          | .ok v => .next (bindTarget l t v)
          | .error x => .err x) := by
  simp only [execSS, runS]
  cases evalSArgs (c.at st) l args with
  | error x => rfl
  | ok vs =>
    simp only []
    rcases execSL c prog (argLocals vs) st with ⟨st', _ | _ | _⟩ <;> rfl

@[pystore] theorem runS_cons (s : SSt) (p : List SSt) :
    runS c l st (s :: p) = ((execSL c (s :: p) l st).1, (execSL c (s :: p) l st).2.val) := rfl

theorem callS_eq (prog : List SSt) (args : List (String × PyVal)) (σ : String → PyVal) :
    callS c prog args σ = ((runS c (argLocals args) ⟨σ, []⟩ prog).1, (runS c (argLocals args) ⟨σ, []⟩ prog).2.toOption) := by
  simp only [callS, runS]
  rcases execSL c prog (argLocals args) ⟨σ, []⟩ with ⟨st, _ | _ | _⟩ <;> rfl

@[pystore] theorem pyCmp_int_int (op : String) (a b : Int) : pyCmp op (.int a) (.int b) = .ok (cmpOp op a b) := by
  simp only [pyCmp, PyVal.num, pure, Except.pure]
  unfold cmpOp
  split <;> simp only [Except.ok.injEq, decide_eq_decide] <;> omega

@[pystore] theorem pyCmp_eq_str (a : PyVal) (s : String) : pyCmp "==" a (.str s) = .ok (decide (a = .str s)) := by
  cases a <;> simp [pyCmp, PyVal.num, pure, Except.pure]

@[pystore] theorem ite_ok {ε α : Type} (t : Prop) [Decidable t] (x y : α) :
    (if t then (Except.ok x : Except ε α) else .ok y) = .ok (if t then x else y) := by
  split <;> rfl

@[pystore] theorem ite_bool (t : Prop) [Decidable t] : (if t then PyVal.bool true else .bool false) = .bool (decide t) := by
  split <;> simp [*]

@[pystore] theorem bool_beq_true (b : Bool) : (PyVal.bool b == PyVal.bool true) = b := by cases b <;> rfl

@[pystore] theorem natCast_mul_bne_zero (n : Nat) (k : Int) (h : k ≠ 0) : ((n : Int) * k != 0) = decide (n ≠ 0) := by
  rw [Bool.eq_iff_iff]
  simp [h]

@[pystore] theorem toNat_mul_div (n k : Nat) (m : Int) (hm : m = k) (h : 0 < k) : ((n : Int) * m).toNat / k = n := by
  rw [hm, ← Int.natCast_mul, Int.toNat_natCast, Nat.mul_div_cancel _ h]

end MpfVerif.Py
