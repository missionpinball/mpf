import MpfVerif.Lemmas.ShowKey
/-! C17: `replace_or_advance_show` — the keep / advance / replace decision for a repeated play (`KOp.playc`). -/
namespace MpfVerif.ShowKey
open MpfVerif.Show

theorem stop_obs (s : RS) : ∀ o ∈ (Show.stop s).2, o = Obs.clr ∨ o = Obs.ev .stopped := by
  cases h : s.stopped with
  | true => rw [stop_of_stopped s h]; exact fun _ ho => nomatch ho
  | false => rw [stop_out s h]; cases s.dirty <;> simp

theorem stopFrom_head_obs (x : Inst) (rest : List Inst) :
    ∀ o ∈ (stopFrom (x :: rest)).2, o.1 = rest.length → o.2 = Obs.clr ∨ o.2 = Obs.ev .stopped := by
  have own : ∀ o ∈ tag rest.length (Show.stop x.rs).2, o.2 = Obs.clr ∨ o.2 = Obs.ev .stopped := by
    intro o ho
    obtain ⟨b, hb, rfl⟩ := List.mem_map.mp ho
    exact stop_obs _ b hb
  refine stopFrom_elim (C := fun p => ∀ o ∈ p.2, o.1 = rest.length → o.2 = Obs.clr ∨ o.2 = Obs.ev .stopped) x rest ?_ ?_ ?_
  · exact fun _ _ ho => nomatch ho
  · intro _ o ho hk
    rcases List.mem_append.mp ho with h1 | h1
    · have := stopFrom_below rest o h1; omega
    · exact own o h1
  · exact fun _ o ho _ => own o ho

/-- the decision of `replace_or_advance_show` read off `next_step_index`: keep / advance only for a running instance with
the very same config which has played a step -/
theorem decision_eq (x : Inst) (cid num den : Nat) (loops : Option Nat) (manual : Bool) (sync : Nat) (start : Int) :
    decision x cid num den loops manual sync start =
      if x.rs.stopped = false ∧ sameCfg x cid num den loops manual sync = true ∧ x.rs.pending = false then
        if x.rs.nextIdx = start then .keep else if x.rs.nextIdx + 1 = start then .advance else .replace
      else .replace := by
  unfold decision curIdx
  cases x.rs.stopped <;> cases sameCfg x cid num den loops manual sync <;> cases x.rs.pending <;> simp
  -- left: running, same config, a step played; `current_step_index = next_step_index - 1`
  simp only [show x.rs.nextIdx - 1 + 2 = x.rs.nextIdx + 1 by omega]

theorem decision_not_replace (x : Inst) (cid num den : Nat) (loops : Option Nat) (manual : Bool) (sync : Nat) (start : Int)
    (h : decision x cid num den loops manual sync start ≠ .replace) :
    x.rs.stopped = false ∧ x.rs.pending = false ∧ sameCfg x cid num den loops manual sync = true ∧
    ((decision x cid num den loops manual sync start = .keep ∧ x.rs.nextIdx = start) ∨
     (decision x cid num den loops manual sync start = .advance ∧ x.rs.nextIdx + 1 = start)) := by
  rw [decision_eq] at h ⊢
  by_cases hc : x.rs.stopped = false ∧ sameCfg x cid num den loops manual sync = true ∧ x.rs.pending = false
  · rw [if_pos hc] at h ⊢
    refine ⟨hc.1, hc.2.2, hc.2.1, ?_⟩
    by_cases h1 : x.rs.nextIdx = start
    · rw [if_pos h1]; exact Or.inl ⟨rfl, h1⟩
    · rw [if_neg h1] at h ⊢
      by_cases h2 : x.rs.nextIdx + 1 = start
      · rw [if_pos h2]; exact Or.inr ⟨rfl, h2⟩
      · rw [if_neg h2] at h; exact absurd rfl h
  · rw [if_neg hc] at h; exact absurd rfl h

theorem step_insts_congr (s s' : KS) (o : KOp) (h : s.insts = s'.insts) :
    (step s o).1.insts = (step s' o).1.insts ∧ (step s o).2 = (step s' o).2 := by
  obtain ⟨i, n⟩ := s
  obtain ⟨i', n'⟩ := s'
  obtain rfl : i = i' := h
  have new : ∀ c durs num den loops start running manual sync t,
      (playNew c ⟨i, n⟩ durs num den loops start running manual sync t).1.insts =
        (playNew c ⟨i, n'⟩ durs num den loops start running manual sync t).1.insts ∧
      (playNew c ⟨i, n⟩ durs num den loops start running manual sync t).2 =
        (playNew c ⟨i, n'⟩ durs num den loops start running manual sync t).2 := by
    intro c durs num den loops start running manual sync t
    unfold playNew
    cases i with
    | nil => exact ⟨rfl, rfl⟩
    | cons x rest =>
      dsimp only
      by_cases hs : x.rs.stopped = true
      · rw [if_pos hs, if_pos hs]; exact ⟨rfl, rfl⟩
      · rw [if_neg hs, if_neg hs]
        by_cases hy : sync ≠ 0
        · rw [if_pos hy, if_pos hy]; exact ⟨rfl, rfl⟩
        · rw [if_neg hy, if_neg hy]; exact ⟨rfl, rfl⟩
  have req : ∀ op, (reqStep ⟨i, n⟩ op).1.insts = (reqStep ⟨i, n'⟩ op).1.insts ∧
      (reqStep ⟨i, n⟩ op).2 = (reqStep ⟨i, n'⟩ op).2 := by
    intro op
    unfold reqStep
    cases isReq op <;> exact ⟨rfl, rfl⟩
  cases o with
  | play durs num den loops start running manual sync t => exact new ..
  | req op => exact req op
  | fire i t => exact ⟨rfl, rfl⟩
  | playc cid durs num den loops start running manual sync t =>
    simp only [step]
    cases i with
    | nil => exact new ..
    | cons x rest =>
      dsimp only
      cases decision x cid num den loops manual sync start with
      | keep => exact ⟨rfl, rfl⟩
      | advance => exact req _
      | replace => exact new ..

theorem run_insts_congr (ops : List KOp) : ∀ (s s' : KS), s.insts = s'.insts →
    (run s ops).1.insts = (run s' ops).1.insts ∧ (run s ops).2 = (run s' ops).2 := by
  induction ops with
  | nil => intro s s' h; exact ⟨h, rfl⟩
  | cons o r ih =>
    intro s s' h
    have h1 := step_insts_congr s s' o h
    have h2 := ih _ _ h1.1
    simp only [run]
    exact ⟨h2.1, by rw [h1.2, h2.2]⟩

end MpfVerif.ShowKey
