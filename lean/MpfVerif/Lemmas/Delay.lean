import MpfVerif.Model.Delay
/-!
`Inv`, and the relation `Hist s o s'` ("a history from `s` to `s'` observed as `o`") whose clauses are the statements of
`Props/C13.lean` in the form that composes: it holds of every primitive of the model and is closed under `Hist.trans`,
hence holds of every command, callback program, step and run (`run_hist`).
-/
namespace MpfVerif.Delay

def entryOf (h : Handle) : Entry := ⟨h.name, h.hid, h.cb, h.arg⟩

/-- The coupling between `DelayManager.delays` and the loop's live handles, plus the timing facts. -/
structure Inv (s : St) : Prop where
  hid_lt : ∀ h ∈ s.live, h.hid < s.nextId
  ehid_lt : ∀ e ∈ s.delays, e.hid < s.nextId
  live_entry : ∀ h ∈ s.live, entryOf h ∈ s.delays
  entry_live : ∀ e ∈ s.delays, ∃ h ∈ s.live, entryOf h = e
  names : s.delays.Pairwise (fun a b => a.name ≠ b.name)
  hids : s.delays.Pairwise (fun a b => a.hid ≠ b.hid)
  due_ge : ∀ h ∈ s.live, s.now ≤ h.due + s.slack
  pid_lt : ∀ p ∈ s.pers, p.pid < s.pers.length
  pids : s.pers.Pairwise (fun a b => a.pid ≠ b.pid)
  last_eq : ∀ p ∈ s.pers, p.last = p.t0 + p.count * p.interval
  pdue_ge : ∀ p ∈ s.pers, p.canceled = false → s.now ≤ p.due + s.slack

/-- handle id `hid` has been issued and is not live any more (it ran or was cancelled) -/
def Dead (s : St) (hid : Nat) : Prop := hid < s.nextId ∧ ∀ h ∈ s.live, h.hid ≠ hid

/-- periodic task `pid` exists and is cancelled -/
def PDead (s : St) (pid : Nat) : Prop := pid < s.pers.length ∧ ∀ p ∈ s.pers, p.pid = pid → p.canceled = true

theorem init_inv : Inv init := by
  constructor <;> simp [init]

theorem find_key {α : Type} {f : α → Nat} {l : List α} {k : Nat} {x : α}
    (h : l.find? (fun y => f y == k) = some x) : x ∈ l ∧ f x = k :=
  ⟨List.mem_of_find?_eq_some h, by simpa using List.find?_some h⟩

theorem pairwise_uniq {α β : Type} (f : α → β) {l : List α} (hp : l.Pairwise (fun a b => f a ≠ f b)) {x y : α}
    (hx : x ∈ l) (hy : y ∈ l) (h : f x = f y) : x = y := by
  rcases List.mem_iff_getElem.mp hx with ⟨a, ha, rfl⟩
  rcases List.mem_iff_getElem.mp hy with ⟨b, hb, rfl⟩
  rcases Nat.lt_trichotomy a b with c | c | c
  · exact absurd h (List.pairwise_iff_getElem.mp hp a b ha hb c)
  · subst c; rfl
  · exact absurd h.symm (List.pairwise_iff_getElem.mp hp b a hb ha c)

theorem find_of_mem {α : Type} (f : α → Nat) {l : List α} (hp : l.Pairwise (fun a b => f a ≠ f b)) {x : α}
    (hx : x ∈ l) : l.find? (fun y => f y == f x) = some x := by
  cases hq : l.find? (fun y => f y == f x) with
  | none => simpa using List.find?_eq_none.mp hq x hx
  | some y => rw [pairwise_uniq f hp (find_key hq).1 hx (find_key hq).2]

theorem forall_mem_snoc {α : Type} {l : List α} {x : α} {p : α → Prop} :
    (∀ a ∈ l ++ [x], p a) ↔ (∀ a ∈ l, p a) ∧ p x := by
  simp [or_imp, forall_and]

/-- total time for which callbacks blocked the loop -/
def blockedSum : List Obs → Nat
  | [] => 0
  | .blocked d :: r => d + blockedSum r
  | _ :: r => blockedSum r

theorem blockedSum_append (a b : List Obs) : blockedSum (a ++ b) = blockedSum a + blockedSum b := by
  induction a with
  | nil => simp [blockedSum]
  | cons x r ih =>
    cases x <;> simp [blockedSum, ih]
    -- left: `blocked d`, associativity
    omega

theorem blockedSum_zero {o : List Obs} (h : ∀ d, Obs.blocked d ∉ o) : blockedSum o = 0 := by
  induction o with
  | nil => rfl
  | cons x r ih =>
    have hr : ∀ d, Obs.blocked d ∉ r := fun d hd => h d (by simp [hd])
    cases x <;> simp [blockedSum, ih hr]
    case blocked d => exact absurd (by simp) (h d)

def firedHids : List Obs → List Nat
  | [] => []
  | .fired h _ :: r => h.hid :: firedHids r
  | _ :: r => firedHids r

theorem firedHids_append (a b : List Obs) : firedHids (a ++ b) = firedHids a ++ firedHids b := by
  induction a with
  | nil => rfl
  | cons x r ih => cases x <;> simp [firedHids, ih]

theorem mem_firedHids {o : List Obs} {i : Nat} : i ∈ firedHids o ↔ ∃ h t, .fired h t ∈ o ∧ h.hid = i := by
  induction o with
  | nil => simp [firedHids]
  | cons x r ih =>
    cases x <;> simp only [firedHids, List.mem_cons, ih, reduceCtorEq, false_or]
    case fired h0 t0 =>
      constructor
      · rintro (a | ⟨h, t, b, c⟩)
        · exact ⟨h0, t0, Or.inl rfl, a.symm⟩
        · exact ⟨h, t, Or.inr b, c⟩
      · rintro ⟨h, t, (a | b), c⟩
        · injection a with a1; subst a1; exact Or.inl c.symm
        · exact Or.inr ⟨h, t, b, c⟩

theorem firedHids_eq_nil {o : List Obs} (h : ∀ hd t, Obs.fired hd t ∉ o) : firedHids o = [] :=
  List.eq_nil_iff_forall_not_mem.mpr fun _ hi =>
    let ⟨hd, t, hm, _⟩ := mem_firedHids.mp hi
    h hd t hm

/-- the observations about a handle of the delay manager -/
def Obs.ofDelay : Obs → Bool
  | .sched _ | .cancel _ | .fired _ _ => true
  | _ => false

structure HistD (s : St) (o : List Obs) (s' : St) : Prop where
  next_le : s.nextId ≤ s'.nextId
  fresh : ∀ h, .sched h ∈ o → s.nextId ≤ h.hid
  live_from : ∀ h ∈ s'.live, h ∈ s.live ∨ .sched h ∈ o
  /-- conservation: a handle that was live or got scheduled is live, cancelled or fired -/
  acc : ∀ h, h ∈ s.live ∨ .sched h ∈ o → h ∈ s'.live ∨ .cancel h.hid ∈ o ∨ h.hid ∈ firedHids o
  cancel_dead : ∀ hid, .cancel hid ∈ o → Dead s' hid
  fired : ∀ h t, .fired h t ∈ o →
    (h ∈ s.live ∨ .sched h ∈ o) ∧ Dead s' h.hid ∧ h.due ≤ t ∧ t ≤ h.due + s.slack + blockedSum o
  nodup : (firedHids o).Nodup

structure HistP (s : St) (o : List Obs) (s' : St) : Prop where
  pdead : ∀ pid, PDead s pid → PDead s' pid
  pers_to : ∀ p ∈ s.pers, ∃ p' ∈ s'.pers, p'.pid = p.pid ∧ p'.t0 = p.t0 ∧ p'.interval = p.interval ∧
    p.count ≤ p'.count
  tick : ∀ pid n t, .tick pid n t ∈ o → ¬ PDead s pid ∧ ∃ p' ∈ s'.pers, p'.pid = pid ∧
    (p'.t0 + n * p'.interval ≤ t ∧ t ≤ p'.t0 + n * p'.interval + s.slack + blockedSum o) ∧ 1 ≤ n ∧ n ≤ p'.count

structure Hist (s : St) (o : List Obs) (s' : St) : Prop extends HistD s o s', HistP s o s' where
  inv : Inv s'
  now_le : s.now ≤ s'.now
  slack_le : s'.slack ≤ s.slack + blockedSum o

theorem HistD.dead {s o s'} (g : HistD s o s') {hid : Nat} (d : Dead s hid) : Dead s' hid :=
  ⟨Nat.lt_of_lt_of_le d.1 g.next_le, fun h hh e => (g.live_from h hh).elim (fun a => d.2 h a e)
    (fun a => by have := g.fresh h a; have := d.1; omega)⟩

theorem HistD.fired_alive {s o s'} (g : HistD s o s') {h : Handle} {t : Nat} (hf : .fired h t ∈ o) :
    ¬ Dead s h.hid := fun d =>
  (g.fired h t hf).1.elim (fun a => d.2 h a rfl) (fun a => by have := g.fresh h a; have := d.1; omega)

theorem HistD.same {s s' : St} {o : List Obs} (hl : s'.live = s.live) (hn : s'.nextId = s.nextId)
    (ho : ∀ x ∈ o, x.ofDelay = false) : HistD s o s' := by
  have no : ∀ {x : Obs}, x.ofDelay = true → x ∉ o := fun hx hm => by simp [ho _ hm] at hx
  refine ⟨Nat.le_of_eq hn.symm, fun h hm => absurd hm (no rfl), fun h hh => Or.inl (hl ▸ hh), ?_,
    fun hid hm => absurd hm (no rfl), fun h t hm => absurd hm (no rfl), ?_⟩
  · rintro h (hh | hm)
    · exact Or.inl (by rw [hl]; exact hh)
    · exact absurd hm (no rfl)
  · rw [firedHids_eq_nil (fun h t => no rfl)]; exact List.nodup_nil

theorem HistP.same {s s' : St} {o : List Obs} (hp : s'.pers = s.pers) (ho : ∀ pid n t, Obs.tick pid n t ∉ o) :
    HistP s o s' :=
  ⟨fun pid d => by rw [PDead, hp]; exact d, fun p h => ⟨p, by rw [hp]; exact h, rfl, rfl, rfl, Nat.le_refl _⟩,
    fun pid n t hm => absurd hm (ho pid n t)⟩

theorem Hist.same {s : St} (i : Inv s) {o : List Obs} (h1 : ∀ x ∈ o, x.ofDelay = false)
    (h2 : ∀ pid n t, Obs.tick pid n t ∉ o) : Hist s o s :=
  { toHistD := .same rfl rfl h1, toHistP := .same rfl h2, inv := i, now_le := Nat.le_refl _,
    slack_le := Nat.le_add_right _ _ }

theorem Hist.refl {s : St} (i : Inv s) : Hist s [] s := .same i (fun _ h => nomatch h) (fun _ _ _ h => nomatch h)

theorem ofDelay_one {x : Obs} (h : x.ofDelay = false) : ∀ y ∈ [x], y.ofDelay = false :=
  fun _ hy => List.mem_singleton.mp hy ▸ h

theorem notick_one {x : Obs} (h : ∀ pid n t, x ≠ .tick pid n t) : ∀ pid n t, Obs.tick pid n t ∉ [x] :=
  fun pid n t hm => h pid n t (List.mem_singleton.mp hm).symm

theorem Hist.one {s : St} (i : Inv s) {x : Obs} (h1 : x.ofDelay = false) (h2 : ∀ pid n t, x ≠ .tick pid n t) :
    Hist s [x] s :=
  .same i (ofDelay_one h1) (notick_one h2)

theorem Hist.trans {s o1 s1 o2 s2} (g1 : Hist s o1 s1) (g2 : Hist s1 o2 s2) : Hist s (o1 ++ o2) s2 := by
  have hb := blockedSum_append o1 o2
  have hs := g1.slack_le
  have early : ∀ {t x : Nat}, t ≤ x + s.slack + blockedSum o1 → t ≤ x + s.slack + blockedSum (o1 ++ o2) := by
    intro t x h; omega
  have late : ∀ {t x : Nat}, t ≤ x + s1.slack + blockedSum o2 → t ≤ x + s.slack + blockedSum (o1 ++ o2) := by
    intro t x h; omega
  exact {
    inv := g2.inv
    now_le := Nat.le_trans g1.now_le g2.now_le
    slack_le := by have := g2.slack_le; omega
    next_le := Nat.le_trans g1.next_le g2.next_le
    fresh := fun h hm =>
      (List.mem_append.mp hm).elim (g1.fresh h) (fun a => Nat.le_trans g1.next_le (g2.fresh h a))
    live_from := fun h hh => by
      rcases g2.live_from h hh with a | a
      · exact (g1.live_from h a).imp_right (fun b => List.mem_append_left _ b)
      · exact Or.inr (List.mem_append_right _ a)
    acc := fun h hh => by
      simp only [List.mem_append, firedHids_append] at hh ⊢
      have k2 : h ∈ s1.live ∨ .sched h ∈ o2 → h ∈ s2.live ∨ (.cancel h.hid ∈ o1 ∨ .cancel h.hid ∈ o2) ∨
          h.hid ∈ firedHids o1 ∨ h.hid ∈ firedHids o2 := fun a =>
        (g2.acc h a).imp_right (Or.imp Or.inr Or.inr)
      have k1 := fun a => (g1.acc h a).elim (fun b => k2 (Or.inl b)) (fun b => Or.inr (b.imp Or.inl Or.inl))
      exact hh.elim (fun a => k1 (Or.inl a)) (fun a => a.elim (fun a => k1 (Or.inr a)) (fun a => k2 (Or.inr a)))
    cancel_dead := fun hid hm =>
      (List.mem_append.mp hm).elim (fun a => g2.dead (g1.cancel_dead hid a)) (g2.cancel_dead hid)
    fired := fun h t hm => by
      simp only [List.mem_append]
      rcases List.mem_append.mp hm with a | a
      · obtain ⟨b1, b2, b3, b4⟩ := g1.fired h t a
        exact ⟨b1.imp_right Or.inl, g2.dead b2, b3, early b4⟩
      · obtain ⟨b1, b2, b3, b4⟩ := g2.fired h t a
        refine ⟨?_, b2, b3, late b4⟩
        rcases b1 with c | c
        · exact (g1.live_from h c).imp_right Or.inl
        · exact Or.inr (Or.inr c)
    nodup := by
      -- a handle fired in the first half is dead after it, one fired in the second half was not
      rw [firedHids_append]
      refine List.nodup_append.mpr ⟨g1.nodup, g2.nodup, ?_⟩
      rintro k hk _ hk' rfl
      obtain ⟨h1, t1, m1, rfl⟩ := mem_firedHids.mp hk
      obtain ⟨h2, t2, m2, e⟩ := mem_firedHids.mp hk'
      exact g2.fired_alive m2 (e ▸ (g1.fired h1 t1 m1).2.1)
    pdead := fun pid d => g2.pdead pid (g1.pdead pid d)
    pers_to := fun p hp => by
      obtain ⟨p1, hp1, a1, a2, a3, a4⟩ := g1.pers_to p hp
      obtain ⟨p2, hp2, b1, b2, b3, b4⟩ := g2.pers_to p1 hp1
      exact ⟨p2, hp2, b1.trans a1, b2.trans a2, b3.trans a3, Nat.le_trans a4 b4⟩
    tick := fun pid n t hm => by
      rcases List.mem_append.mp hm with a | a
      · obtain ⟨c, p1, hp1, a1, a2, a3⟩ := g1.tick pid n t a
        obtain ⟨p2, hp2, b1, b2, b3, b4⟩ := g2.pers_to p1 hp1
        exact ⟨c, p2, hp2, b1.trans a1, by rw [b2, b3]; exact ⟨a2.1, early a2.2⟩, a3.1, Nat.le_trans a3.2 b4⟩
      · obtain ⟨c, p2, hp2, b1, b2, b3⟩ := g2.tick pid n t a
        exact ⟨fun d => c (g1.pdead pid d), p2, hp2, b1, ⟨b2.1, late b2.2⟩, b3⟩ }

theorem Inv.setDelays {s : St} (i : Inv s) {n : Nat} {ds : List Entry} {lv : List Handle}
    (h1 : ∀ h ∈ lv, h.hid < n) (h2 : ∀ e ∈ ds, e.hid < n) (h3 : ∀ h ∈ lv, entryOf h ∈ ds)
    (h4 : ∀ e ∈ ds, ∃ h ∈ lv, entryOf h = e) (h5 : ds.Pairwise (fun a b => a.name ≠ b.name))
    (h6 : ds.Pairwise (fun a b => a.hid ≠ b.hid)) (h7 : ∀ h ∈ lv, s.now ≤ h.due + s.slack) :
    Inv { s with nextId := n, delays := ds, live := lv } :=
  ⟨h1, h2, h3, h4, h5, h6, h7, i.pid_lt, i.pids, i.last_eq, i.pdue_ge⟩

theorem Inv.setPers {s : St} (i : Inv s) {ps : List Per} (h1 : ∀ p ∈ ps, p.pid < ps.length)
    (h2 : ps.Pairwise (fun a b => a.pid ≠ b.pid)) (h3 : ∀ p ∈ ps, p.last = p.t0 + p.count * p.interval)
    (h4 : ∀ p ∈ ps, p.canceled = false → s.now ≤ p.due + s.slack) : Inv { s with pers := ps } :=
  ⟨i.hid_lt, i.ehid_lt, i.live_entry, i.entry_live, i.names, i.hids, i.due_ge, h1, h2, h3, h4⟩

theorem Inv.setTime {s : St} (i : Inv s) {t k : Nat} (h1 : ∀ h ∈ s.live, t ≤ h.due + k)
    (h2 : ∀ p ∈ s.pers, p.canceled = false → t ≤ p.due + k) : Inv { s with now := t, slack := k } :=
  ⟨i.hid_lt, i.ehid_lt, i.live_entry, i.entry_live, i.names, i.hids, h1, i.pid_lt, i.pids, i.last_eq, h2⟩

/-- what `pop(name)` + `unschedule`, and `_process_delay_callback`'s `del self.delays[name]`, leave -/
def popSt (s : St) (n : Nat) (e : Entry) : St :=
  { s with delays := s.delays.filter (fun x => x.name != n), live := s.live.filter (fun h => h.hid != e.hid) }

theorem popName_some {s : St} {n : Nat} {e : Entry} (hf : s.delays.find? (fun e => e.name == n) = some e) :
    popName s n = (popSt s n e, [.cancel e.hid]) := by
  simp [popName, St.entry?, hf, popSt]

theorem popName_none {s : St} {n : Nat} (hf : s.delays.find? (fun e => e.name == n) = none) :
    popName s n = (s, []) := by
  simp [popName, St.entry?, hf]

theorem mem_popSt_live {s : St} {n : Nat} {e : Entry} {h : Handle} :
    h ∈ (popSt s n e).live ↔ h ∈ s.live ∧ h.hid ≠ e.hid := by
  simp [popSt]

theorem popSt_inv {s : St} {n : Nat} {e : Entry} (i : Inv s) (he : e ∈ s.delays) (hn : e.name = n) :
    Inv (popSt s n e) := by
  refine i.setDelays (fun h hh => i.hid_lt h (List.mem_filter.mp hh).1)
    (fun x hx => i.ehid_lt x (List.mem_filter.mp hx).1) ?_ ?_ (i.names.filter _) (i.hids.filter _)
    (fun h hh => i.due_ge h (List.mem_filter.mp hh).1)
  · -- a live handle other than `e`'s has another name, names being distinct
    intro h hh
    obtain ⟨h1, h2⟩ := (mem_popSt_live (n := n)).mp hh
    refine List.mem_filter.mpr ⟨i.live_entry h h1, ?_⟩
    simp only [bne_iff_ne, ne_eq]
    intro c
    exact h2 (congrArg Entry.hid (pairwise_uniq Entry.name i.names (i.live_entry h h1) he (c.trans hn.symm)))
  · -- an entry of another name has another handle id, ids being distinct
    intro x hx
    obtain ⟨h1, h2⟩ := List.mem_filter.mp hx
    obtain ⟨h, hh, he'⟩ := i.entry_live x h1
    refine ⟨h, (mem_popSt_live (n := n)).mpr ⟨hh, fun c => ?_⟩, he'⟩
    have := pairwise_uniq Entry.hid i.hids h1 he (by rw [← he']; exact c)
    simp [this, hn] at h2

theorem popSt_dead {s : St} {n : Nat} {e : Entry} (h : e.hid < s.nextId) : Dead (popSt s n e) e.hid :=
  ⟨h, fun _ hx => (mem_popSt_live.mp hx).2⟩

theorem pop_hist {s : St} {n : Nat} {e : Entry} (i : Inv s) (he : e ∈ s.delays) (hn : e.name = n) :
    Hist s [.cancel e.hid] (popSt s n e) where
  inv := popSt_inv i he hn
  now_le := Nat.le_refl _
  slack_le := Nat.le_add_right _ _
  toHistP := .same rfl (notick_one fun _ _ _ => nofun)
  next_le := Nat.le_refl _
  fresh := by simp
  live_from := fun h hh => Or.inl (mem_popSt_live.mp hh).1
  acc := fun h hh => by
    by_cases c : h.hid = e.hid
    · simp [c]
    · exact Or.inl (mem_popSt_live.mpr ⟨by simpa using hh, c⟩)
  cancel_dead := fun hid hm => by
    obtain rfl : hid = e.hid := by simpa using hm
    exact popSt_dead (i.ehid_lt e he)
  fired := by simp
  nodup := List.nodup_nil

theorem fire_hist {s : St} {hd : Handle} (i : Inv s) (hm : hd ∈ s.live) (hdue : hd.due ≤ s.now) :
    Hist s [.fired hd s.now] (popSt s hd.name (entryOf hd)) where
  inv := popSt_inv i (i.live_entry hd hm) rfl
  now_le := Nat.le_refl _
  slack_le := Nat.le_add_right _ _
  toHistP := .same rfl (notick_one fun _ _ _ => nofun)
  next_le := Nat.le_refl _
  fresh := by simp
  live_from := fun h hh => Or.inl (mem_popSt_live.mp hh).1
  acc := fun h hh => by
    by_cases c : h.hid = hd.hid
    · simp [c, firedHids]
    · exact Or.inl (mem_popSt_live.mpr ⟨by simpa using hh, c⟩)
  cancel_dead := by simp
  fired := fun h t hf => by
    obtain ⟨rfl, rfl⟩ : h = hd ∧ t = s.now := by simpa using hf
    have := i.due_ge h hm
    exact ⟨Or.inl hm, popSt_dead (i.hid_lt h hm), hdue, by simp only [blockedSum]; omega⟩
  nodup := by simp [firedHids]

theorem popName_hist (s : St) (n : Nat) (i : Inv s) : Hist s (popName s n).2 (popName s n).1 := by
  cases hf : s.delays.find? (fun e => e.name == n) with
  | none => rw [popName_none hf]; exact .refl i
  | some e => rw [popName_some hf]; exact pop_hist i (find_key hf).1 (find_key hf).2

theorem popName_noname (s : St) (n : Nat) : ∀ e ∈ (popName s n).1.delays, e.name ≠ n := by
  cases hf : s.delays.find? (fun e => e.name == n) with
  | none =>
    rw [popName_none hf]
    intro e he
    simpa using List.find?_eq_none.mp hf e he
  | some e =>
    rw [popName_some hf]
    intro x hx
    simpa [popSt] using (List.mem_filter.mp hx).2

def schedSt (s : St) (ms n cb : Nat) (arg : Int) : St :=
  { s with nextId := s.nextId + 1, delays := s.delays ++ [⟨n, s.nextId, cb, arg⟩],
           live := s.live ++ [⟨s.nextId, n, cb, arg, s.now + ms⟩] }

theorem sched_hist (s : St) (ms n cb : Nat) (arg : Int) (i : Inv s) (hn : ∀ e ∈ s.delays, e.name ≠ n) :
    Hist s [.sched ⟨s.nextId, n, cb, arg, s.now + ms⟩] (schedSt s ms n cb arg) where
  inv := by
    refine i.setDelays
      (forall_mem_snoc.mpr ⟨fun h a => Nat.lt_succ_of_lt (i.hid_lt h a), Nat.lt_succ_self _⟩)
      (forall_mem_snoc.mpr ⟨fun e a => Nat.lt_succ_of_lt (i.ehid_lt e a), Nat.lt_succ_self _⟩)
      (forall_mem_snoc.mpr ⟨fun h a => List.mem_append_left _ (i.live_entry h a), by simp [entryOf]⟩)
      (forall_mem_snoc.mpr ⟨fun e a => ?_, ⟨⟨s.nextId, n, cb, arg, s.now + ms⟩, by simp, rfl⟩⟩)
      (List.pairwise_append.mpr ⟨i.names, List.pairwise_singleton _ _, fun a ha b hb => ?_⟩)
      (List.pairwise_append.mpr ⟨i.hids, List.pairwise_singleton _ _, fun a ha b hb => ?_⟩)
      (forall_mem_snoc.mpr ⟨i.due_ge, by show s.now ≤ s.now + ms + s.slack; omega⟩)
    · obtain ⟨h, hh, e1⟩ := i.entry_live e a
      exact ⟨h, List.mem_append_left _ hh, e1⟩
    · obtain rfl := List.mem_singleton.mp hb
      exact hn a ha
    · obtain rfl := List.mem_singleton.mp hb
      exact Nat.ne_of_lt (i.ehid_lt a ha)
  now_le := Nat.le_refl _
  slack_le := Nat.le_add_right _ _
  toHistP := .same rfl (notick_one fun _ _ _ => nofun)
  next_le := Nat.le_succ _
  fresh := fun h hm => by
    simp at hm; subst hm; exact Nat.le_refl _
  live_from := fun h hh => by simpa [schedSt] using hh
  acc := fun h hh => Or.inl (by simpa [schedSt] using hh)
  cancel_dead := by simp
  fired := by simp
  nodup := List.nodup_nil

theorem doAdd_hist (s : St) (ms n cb : Nat) (arg : Int) (i : Inv s) :
    Hist s (doAdd s ms n cb arg).2 (doAdd s ms n cb arg).1 :=
  (popName_hist s n i).trans (sched_hist _ ms n cb arg (popName_hist s n i).inv (popName_noname s n))

theorem doClear_eq {s : St} (i : Inv s) :
    doClear s = ({ s with delays := [], live := [] }, s.delays.map (fun e => .cancel e.hid)) := by
  have : s.live.filter (fun h => !(s.delays.any (fun e => e.hid == h.hid))) = [] :=
    List.filter_eq_nil_iff.mpr fun h hh => by
      have : s.delays.any (fun e => e.hid == h.hid) = true :=
        List.any_eq_true.mpr ⟨entryOf h, i.live_entry h hh, by simp [entryOf]⟩
      simp [this]
  simp only [doClear, this]

theorem doClear_hist (s : St) (i : Inv s) : Hist s (doClear s).2 (doClear s).1 := by
  rw [doClear_eq i]
  exact {
    inv := by refine i.setDelays ?_ ?_ ?_ ?_ ?_ ?_ ?_ <;> simp
    now_le := Nat.le_refl _
    slack_le := Nat.le_add_right _ _
    toHistP := .same rfl (by simp)
    next_le := Nat.le_refl _
    fresh := by simp
    live_from := by simp
    acc := fun h hh => Or.inr (Or.inl (List.mem_map.mpr ⟨entryOf h, i.live_entry h (by simpa using hh), rfl⟩))
    cancel_dead := fun hid hm => by
      obtain ⟨e, he, rfl⟩ : ∃ e ∈ s.delays, e.hid = hid := by simpa using hm
      exact ⟨i.ehid_lt e he, by simp⟩
    fired := by simp
    nodup := by rw [firedHids_eq_nil (by simp)]; exact List.nodup_nil }

theorem pstart_hist (s : St) (iv cb : Nat) (i : Inv s) : Hist s (doPStart s iv cb).2 (doPStart s iv cb).1 where
  inv := by
    refine i.setPers
      (forall_mem_snoc.mpr ⟨fun p a => ?_, by rw [List.length_append]; exact Nat.lt_succ_self _⟩)
      (List.pairwise_append.mpr ⟨i.pids, List.pairwise_singleton _ _, fun a ha b hb => ?_⟩)
      (forall_mem_snoc.mpr ⟨i.last_eq, by simp⟩)
      (forall_mem_snoc.mpr ⟨i.pdue_ge, fun _ => Nat.le_trans (Nat.le_add_right _ iv) (Nat.le_add_right _ _)⟩)
    · rw [List.length_append]; exact Nat.lt_add_right _ (i.pid_lt p a)
    · obtain rfl := List.mem_singleton.mp hb
      exact Nat.ne_of_lt (i.pid_lt a ha)
  now_le := Nat.le_refl _
  slack_le := Nat.le_add_right _ _
  toHistD := .same rfl rfl (ofDelay_one rfl)
  pdead := fun pid d => by
    refine ⟨by have := d.1; simp [doPStart]; omega, forall_mem_snoc.mpr ⟨d.2, fun e => ?_⟩⟩
    have := d.1; simp at e; omega
  pers_to := fun p hp => ⟨p, List.mem_append_left _ hp, rfl, rfl, rfl, Nat.le_refl _⟩
  tick := fun pid n t hm => nomatch List.mem_singleton.mp hm

/-- what `doPCancel` and the head of a `pfire` step do to each task (`f`): identity, creation time and interval stay, the
count does not go down, a cancelled task stays cancelled, and `last = t0 + count * interval` is kept -/
structure PerStep (f : Per → Per) : Prop where
  pid : ∀ p, (f p).pid = p.pid
  t0 : ∀ p, (f p).t0 = p.t0
  interval : ∀ p, (f p).interval = p.interval
  count_le : ∀ p, p.count ≤ (f p).count
  stays_canceled : ∀ p, p.canceled = true → (f p).canceled = true
  running : ∀ p, (f p).canceled = false → p.canceled = false ∧ p.due ≤ (f p).due
  last_eq : ∀ p, p.last = p.t0 + p.count * p.interval → (f p).last = (f p).t0 + (f p).count * (f p).interval

theorem PerStep.of {f : Per → Per} (h : ∀ p, (f p).pid = p.pid ∧ (f p).t0 = p.t0 ∧ (f p).interval = p.interval ∧
    p.count ≤ (f p).count ∧ (p.canceled = true → (f p).canceled = true) ∧
    ((f p).canceled = false → p.canceled = false ∧ p.due ≤ (f p).due) ∧
    (p.last = p.t0 + p.count * p.interval → (f p).last = (f p).t0 + (f p).count * (f p).interval)) : PerStep f :=
  ⟨fun p => (h p).1, fun p => (h p).2.1, fun p => (h p).2.2.1, fun p => (h p).2.2.2.1, fun p => (h p).2.2.2.2.1,
    fun p => (h p).2.2.2.2.2.1, fun p => (h p).2.2.2.2.2.2⟩

theorem mapPers_hist {s : St} (i : Inv s) {f : Per → Per} (hf : PerStep f) {o : List Obs} (ho : ∀ x ∈ o, x.ofDelay = false)
    (ht : ∀ pid n t, .tick pid n t ∈ o → ∃ p ∈ s.pers, p.pid = pid ∧ p.canceled = false ∧
      ((f p).t0 + n * (f p).interval ≤ t ∧ t ≤ (f p).t0 + n * (f p).interval + s.slack) ∧ 1 ≤ n ∧ n ≤ (f p).count) :
    Hist s o { s with pers := s.pers.map f } where
  inv := by
    refine i.setPers ?_ (List.pairwise_map.mpr (i.pids.imp fun {a b} h => by rw [hf.pid a, hf.pid b]; exact h)) ?_ ?_
    · intro p hp
      obtain ⟨q, hq, rfl⟩ := List.mem_map.mp hp
      rw [hf.pid q, List.length_map]; exact i.pid_lt q hq
    · intro p hp
      obtain ⟨q, hq, rfl⟩ := List.mem_map.mp hp
      exact hf.last_eq q (i.last_eq q hq)
    · intro p hp hc
      obtain ⟨q, hq, rfl⟩ := List.mem_map.mp hp
      obtain ⟨c1, c2⟩ := hf.running q hc
      have := i.pdue_ge q hq c1
      omega
  now_le := Nat.le_refl _
  slack_le := Nat.le_add_right _ _
  toHistD := .same rfl rfl ho
  pdead := fun pid d => by
    refine ⟨by simpa using d.1, fun p hp e => ?_⟩
    obtain ⟨q, hq, rfl⟩ := List.mem_map.mp hp
    exact hf.stays_canceled q (d.2 q hq (hf.pid q ▸ e))
  pers_to := fun p hp => ⟨f p, List.mem_map.mpr ⟨p, hp, rfl⟩, hf.pid p, hf.t0 p, hf.interval p, hf.count_le p⟩
  tick := fun pid n t hm => by
    obtain ⟨p, hp, e, hc, a, b⟩ := ht pid n t hm
    exact ⟨fun d => by simp [d.2 p hp e] at hc, f p, List.mem_map.mpr ⟨p, hp, rfl⟩, (hf.pid p).trans e,
      ⟨a.1, by omega⟩, b⟩

theorem pcancel_hist (s : St) (pid : Nat) (i : Inv s) : Hist s [] (doPCancel s pid) :=
  mapPers_hist i (.of fun p => by by_cases c : p.pid = pid <;> simp [c]) (fun _ h => nomatch h) (fun _ _ _ h => nomatch h)

theorem pcancel_pdead (s : St) (pid : Nat) (h : pid < s.pers.length) : PDead (doPCancel s pid) pid := by
  refine ⟨by simpa [doPCancel] using h, fun p hp e => ?_⟩
  obtain ⟨q, _, rfl⟩ := List.mem_map.mp hp
  by_cases c : q.pid = pid <;> simp [c] at e ⊢

/-- `PeriodicTask._run` on the record of task `pid`: `_last_call += interval`, one more callback -/
def bumpP (pid : Nat) (q : Per) : Per :=
  if q.pid == pid then { q with last := q.last + q.interval, count := q.count + 1 } else q

theorem pfire_hist {s : St} {p : Per} (i : Inv s) (hm : p ∈ s.pers) (hc : p.canceled = false) (hdue : p.due ≤ s.now) :
    Hist s [.tick p.pid (p.count + 1) s.now] { s with pers := s.pers.map (bumpP p.pid) } := by
  refine mapPers_hist i (.of fun q => ?_) (ofDelay_one rfl) (fun pid n t hm' => ?_)
  · unfold bumpP
    by_cases c : q.pid = p.pid <;> simp [c, Per.due, Nat.succ_mul] <;> omega
  · obtain ⟨rfl, rfl, rfl⟩ : pid = p.pid ∧ n = p.count + 1 ∧ t = s.now := by simpa using hm'
    have h1 := i.last_eq p hm
    have h2 := i.pdue_ge p hm hc
    simp only [Per.due] at hdue h2
    exact ⟨p, hm, rfl, hc, by simp [bumpP, Nat.succ_mul]; omega⟩

theorem block_hist (s : St) (d : Nat) (i : Inv s) :
    Hist s [.blocked d] { s with now := s.now + d, slack := s.slack + d } where
  inv := i.setTime (fun h hh => by have := i.due_ge h hh; omega) (fun p hp hc => by have := i.pdue_ge p hp hc; omega)
  now_le := Nat.le_add_right _ _
  slack_le := by simp [blockedSum]
  toHistD := .same rfl rfl (ofDelay_one rfl)
  toHistP := .same rfl (notick_one fun _ _ _ => nofun)

theorem stepCmd_hist (P : Nat → List Cmd) (s : St) (c : Cmd) (i : Inv s) :
    Hist s (stepCmd P s c).2.1 (stepCmd P s c).1 := by
  cases c with
  | add ms n cb a => exact doAdd_hist s ms n cb a i
  | addIf ms n cb a =>
    simp only [stepCmd]
    split
    · exact .refl i
    · exact doAdd_hist s ms n cb a i
  | reset ms n cb a =>
    simp only [stepCmd]
    split
    · exact (popName_hist s n i).trans (doAdd_hist _ ms n cb a (popName_hist s n i).inv)
    · simpa using doAdd_hist s ms n cb a i
  | remove n => exact popName_hist s n i
  | clear => exact doClear_hist s i
  | runNow n =>
    simp only [stepCmd]
    cases s.entry? n with
    | none => exact .refl i
    | some e =>
      exact (popName_hist s n i).trans (.one (popName_hist s n i).inv rfl (fun _ _ _ => nofun))
  | check n => exact .one i rfl (fun _ _ _ => nofun)
  | pstart iv cb => exact pstart_hist s iv cb i
  | pcancel pid => exact pcancel_hist s pid i
  | prestart pid iv cb =>
    simp only [stepCmd]
    split
    · exact (pcancel_hist s pid i).trans (pstart_hist _ iv cb (pcancel_hist s pid i).inv)
    · exact .refl i
  | block d => exact block_hist s d i
  | raise k => exact .one i rfl (fun _ _ _ => nofun)
  | endTry => exact .refl i

theorem exec_hist (P : Nat → List Cmd) (f : Nat) : ∀ (s : St) (l : List Cmd), Inv s →
    Hist s (exec P f s l).2 (exec P f s l).1 := by
  induction f with
  | zero =>
    intro s l i
    cases l with
    | nil => exact .refl i
    | cons c r => exact .one i rfl (fun _ _ _ => nofun)
  | succ f ih =>
    intro s l i
    cases l with
    | nil => exact .refl i
    | cons c r =>
      simp only [exec]
      have g1 := stepCmd_hist P s c i
      cases cont c r with
      | none => exact g1.trans (.one g1.inv rfl (fun _ _ _ => nofun))
      | some rest' => exact g1.trans (ih _ _ g1.inv)

/-- what only the loop posts: it ran a due handle or a due periodic task -/
def Obs.byLoop : Obs → Bool
  | .fired _ _ | .tick _ _ _ => true
  | _ => false

/-- no observation of `o` is one only the loop posts (`exec_quiet`: so it is of commands and callback programs) -/
def Quiet (o : List Obs) : Prop := ∀ x ∈ o, x.byLoop = false

theorem Quiet.nil : Quiet [] := fun _ h => nomatch h

theorem Quiet.one {x : Obs} (h : x.byLoop = false) : Quiet [x] := fun y hy => by
  rw [List.mem_singleton.mp hy]; exact h

theorem Quiet.append {a b : List Obs} (ha : Quiet a) (hb : Quiet b) : Quiet (a ++ b) := fun x hx =>
  (List.mem_append.mp hx).elim (ha x) (hb x)

theorem popName_quiet (s : St) (n : Nat) : Quiet (popName s n).2 := by
  unfold popName
  split
  · exact .nil
  · exact .one rfl

theorem doAdd_quiet (s : St) (ms n cb : Nat) (a : Int) : Quiet (doAdd s ms n cb a).2 :=
  (popName_quiet s n).append (.one rfl)

theorem stepCmd_quiet (P : Nat → List Cmd) (s : St) (c : Cmd) : Quiet (stepCmd P s c).2.1 := by
  cases c with
  | add ms n cb a => exact doAdd_quiet s ms n cb a
  | addIf ms n cb a =>
    simp only [stepCmd]
    split
    · exact .nil
    · exact doAdd_quiet s ms n cb a
  | reset ms n cb a =>
    simp only [stepCmd]
    split
    · exact (popName_quiet s n).append (doAdd_quiet _ ms n cb a)
    · exact Quiet.nil.append (doAdd_quiet s ms n cb a)
  | remove n => exact popName_quiet s n
  | clear => exact fun x hx => by obtain ⟨e, -, rfl⟩ := List.mem_map.mp hx; rfl
  | runNow n =>
    simp only [stepCmd]
    cases s.entry? n with
    | none => exact .nil
    | some e => exact (popName_quiet s n).append (.one rfl)
  | check n => exact .one rfl
  | pstart iv cb => exact .one rfl
  | pcancel pid => exact .nil
  | prestart pid iv cb =>
    simp only [stepCmd]
    split
    · exact .one rfl
    · exact .nil
  | block d => exact .one rfl
  | raise k => exact .one rfl
  | endTry => exact .nil

theorem exec_quiet (P : Nat → List Cmd) (f : Nat) : ∀ (s : St) (l : List Cmd), Quiet (exec P f s l).2 := by
  induction f with
  | zero => intro s l; cases l; exact .nil; exact .one rfl
  | succ f ih =>
    intro s l
    cases l with
    | nil => exact .nil
    | cons c r =>
      simp only [exec]
      cases cont c r with
      | none => exact (stepCmd_quiet P s c).append (.one rfl)
      | some rest' => exact (stepCmd_quiet P s c).append (ih _ _)

theorem step_to {P : Nat → List Cmd} {s : St} {t : Nat} {r : St × List Obs} (h : step P s (.to t) = some r) :
    r = ({ s with now := t, slack := 0 }, []) ∧ s.now ≤ t ∧ (∀ h ∈ s.live, t ≤ h.due) ∧
      ∀ p ∈ s.pers, p.canceled = false → t ≤ p.due := by
  simp only [step] at h
  split at h
  · rename_i c
    obtain ⟨c1, c2, c3⟩ := c
    simp only [List.all_eq_true, decide_eq_true_eq, Bool.or_eq_true] at c2 c3
    injection h with h
    exact ⟨h.symm, c1, c2, fun p hp hc => (c3 p hp).resolve_left (by simp [hc])⟩
  · cases h

theorem step_fire {P : Nat → List Cmd} {s : St} {hid : Nat} {r : St × List Obs} (h : step P s (.fire hid) = some r) :
    ∃ hd ∈ s.live, hd.hid = hid ∧ hd.due ≤ s.now ∧
      r = ((exec P fuel (popSt s hd.name (entryOf hd)) (P hd.cb)).1,
           .fired hd s.now :: (exec P fuel (popSt s hd.name (entryOf hd)) (P hd.cb)).2) := by
  simp only [step] at h
  cases hf : s.live.find? (fun h => h.hid == hid) with
  | none => simp [hf] at h
  | some hd =>
    simp only [hf] at h
    obtain ⟨hm, hh⟩ := find_key hf
    split at h
    · rename_i hdue
      injection h with h
      refine ⟨hd, hm, hh, hdue, ?_⟩
      rw [← h]
      simp [popSt, entryOf, hh]
    · cases h

theorem step_pfire {P : Nat → List Cmd} {s : St} {pid : Nat} {r : St × List Obs}
    (h : step P s (.pfire pid) = some r) :
    ∃ p ∈ s.pers, p.pid = pid ∧ p.canceled = false ∧ p.due ≤ s.now ∧
      r = ((exec P fuel { s with pers := s.pers.map (bumpP pid) } (P p.cb)).1,
           .tick pid (p.count + 1) s.now :: (exec P fuel { s with pers := s.pers.map (bumpP pid) } (P p.cb)).2) := by
  simp only [step] at h
  cases hf : s.pers.find? (fun p => p.pid == pid) with
  | none => simp [hf] at h
  | some p =>
    simp only [hf] at h
    obtain ⟨hm, hp⟩ := find_key hf
    split at h
    · rename_i hc
      injection h with h
      exact ⟨p, hm, hp, by simpa using hc.1, hc.2, h.symm⟩
    · cases h

theorem step_hist (P : Nat → List Cmd) (s : St) (op : Op) (r : St × List Obs) (i : Inv s)
    (h : step P s op = some r) : Hist s r.2 r.1 := by
  cases op with
  | cmd c =>
    injection h with h; subst h
    exact exec_hist P fuel s [c] i
  | to t =>
    obtain ⟨rfl, c1, c2, c3⟩ := step_to h
    exact { toHistD := .same rfl rfl (fun _ h => nomatch h), toHistP := .same rfl (fun _ _ _ h => nomatch h), now_le := c1,
            slack_le := Nat.zero_le _, inv := i.setTime c2 c3 }
  | fire hid =>
    obtain ⟨hd, hm, -, hdue, rfl⟩ := step_fire h
    have g := fire_hist i hm hdue
    exact g.trans (exec_hist P fuel _ _ g.inv)
  | pfire pid =>
    obtain ⟨p, hm, rfl, hc, hdue, rfl⟩ := step_pfire h
    have g := pfire_hist i hm hc hdue
    exact g.trans (exec_hist P fuel _ _ g.inv)

theorem run_cons {P : Nat → List Cmd} {s : St} {op : Op} {ops : List Op} {r : St × List Obs}
    (h : run P s (op :: ops) = some r) :
    ∃ r1 r2, step P s op = some r1 ∧ run P r1.1 ops = some r2 ∧ r = (r2.1, r1.2 ++ r2.2) := by
  simp only [run] at h
  cases h1 : step P s op with
  | none => simp [h1] at h
  | some r1 =>
    simp only [h1] at h
    cases h2 : run P r1.1 ops with
    | none => simp [h2] at h
    | some r2 =>
      simp only [h2] at h
      injection h with h
      exact ⟨r1, r2, rfl, h2, h.symm⟩

/-- Every run from a state with `Inv` is a history; `Hist.inv`: reachable states keep the coupling between the `delays` dict
and the loop's live handles. -/
theorem run_hist (P : Nat → List Cmd) (ops : List Op) : ∀ (s : St) (r : St × List Obs), Inv s →
    run P s ops = some r → Hist s r.2 r.1 := by
  induction ops with
  | nil => intro s r i h; simp [run] at h; subst h; exact .refl i
  | cons op ops ih =>
    intro s r i h
    obtain ⟨r1, r2, h1, h2, rfl⟩ := run_cons h
    have g := step_hist P s op r1 i h1
    exact g.trans (ih r1.1 r2 g.inv h2)

theorem run_inv (P : Nat → List Cmd) (ops : List Op) (s : St) (r : St × List Obs) (i : Inv s)
    (h : run P s ops = some r) : Inv r.1 :=
  (run_hist P ops s r i h).inv

theorem run_append (P : Nat → List Cmd) (a b : List Op) : ∀ (s s1 s2 : St) (t1 t2 : List Obs),
    run P s a = some (s1, t1) → run P s1 b = some (s2, t2) → run P s (a ++ b) = some (s2, t1 ++ t2) := by
  induction a with
  | nil => intro s s1 s2 t1 t2 h1 h2; simp [run] at h1; obtain ⟨rfl, rfl⟩ := h1; simpa using h2
  | cons op a ih =>
    intro s s1 s2 t1 t2 h1 h2
    obtain ⟨r1, r2, e1, e2, e3⟩ := run_cons h1
    injection e3 with e3a e3b; subst e3a; subst e3b
    have := ih r1.1 r2.1 s2 r2.2 t2 e2 h2
    simp [run, e1, this]

theorem mflat_append (a b : List MOp) : ∀ ph, mflat ph (a ++ b) = mflat ph a ++ mflat (mphase ph a) b := by
  induction a with
  | nil => intro ph; rfl
  | cons x a ih =>
    intro ph
    cases x with
    | op o => simp [mflat, mphase, ih]
    | stop => cases ph <;> simp [mflat, mphase, ih]
    | finish =>
      rcases ph with _ | _ | ph <;> simp [mflat, mphase, ih]

/-- `delay.clear()` from the top level: every live handle of the manager is cancelled, nothing is left -/
theorem clear_step (P : Nat → List Cmd) (s : St) (i : Inv s) (r : St × List Obs) (h : run P s [.cmd .clear] = some r) :
    (∀ hd ∈ s.live, .cancel hd.hid ∈ r.2) ∧ r.1.live = [] ∧ r.1.delays = [] ∧ r.1.now = s.now := by
  have e : r = ((doClear s).1, (doClear s).2) := by
    simp [run, step, exec, fuel, stepCmd, cont] at h
    rw [← h]
  rw [e, doClear_eq i]
  exact ⟨fun hd hh => List.mem_map.mpr ⟨entryOf hd, i.live_entry hd hh, rfl⟩, rfl, rfl, rfl⟩

end MpfVerif.Delay
