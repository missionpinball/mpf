import MpfVerif.Model.BatchLight
/-! C09: the batched back end never loses a dirty light. -/
namespace MpfVerif.Batch

/-- the last brightness queued for light `l` in a list -/
def lastIn (l : Nat) : List (Nat × B) → Option B
  | [] => none
  | x :: r => match lastIn l r with
    | some b => some b
    | none => if x.1 = l then some x.2 else none

def pick3 (a b c : Option B) : Option B :=
  match a with
  | some x => some x
  | none => match b with
    | some y => some y
    | none => c

/-- what the platform has, or will have once everything queued is delivered, for light `l` -/
def view (s : BSt) (l : Nat) : Option B := pick3 (lastIn l s.acc) (lastIn l (s.inflight.getD [])) (s.hw l)

/-- the brightness recorded for `l` is the target of its latest fade -/
def Settled (s : BSt) (l : Nat) : Prop := ∃ b t, s.last l = some (b, t) ∧ eqB b ((s.fade l).tb, 255)

/-- no lost dirty: a light that ever got a command is dirty, taken, scheduled, or settled -/
def D (s : BSt) : Prop :=
  ∀ l, s.ver l = 0 ∨ l ∈ s.dirty ∨ l ∈ s.pending ∨ l ∈ s.sched.map (·.2) ∨ Settled s l

/-- `last_state` describes exactly what is queued / delivered -/
def H (s : BSt) : Prop := ∀ l, view s l = (s.last l).map (·.1)

theorem mem_insertSet (x l : Nat) (d : List Nat) : x ∈ insertSet l d ↔ x = l ∨ x ∈ d := by
  induction d with
  | nil => simp [insertSet]
  | cons y r ih =>
    unfold insertSet
    split
    next h => simp [h]
    · split <;> simp [ih, or_left_comm]

theorem mem_foldl_insert (x : Nat) (es : List (Nat × Nat)) (d0 : List Nat) :
    x ∈ es.foldl (fun d e => insertSet e.2 d) d0 ↔ x ∈ d0 ∨ x ∈ es.map (·.2) := by
  induction es generalizing d0 with
  | nil => simp
  | cons e r ih => simp [ih, mem_insertSet, or_assoc, or_left_comm]

theorem view_eq (s : BSt) (l : Nat) :
    view s l = (lastIn l s.acc).or ((lastIn l (s.inflight.getD [])).or (s.hw l)) := by
  unfold view pick3
  cases lastIn l s.acc <;> cases lastIn l (s.inflight.getD []) <;> rfl

theorem lastIn_cons (l : Nat) (x : Nat × B) (r : List (Nat × B)) :
    lastIn l (x :: r) = (lastIn l r).or (if x.1 = l then some x.2 else none) := by
  rw [lastIn]
  cases lastIn l r <;> rfl

theorem lastIn_append (l : Nat) (p q : List (Nat × B)) : lastIn l (p ++ q) = (lastIn l q).or (lastIn l p) := by
  induction p with
  | nil => simp [lastIn, Option.or_none]
  | cons x p ih => rw [List.cons_append, lastIn_cons, ih, lastIn_cons, Option.or_assoc]

theorem applyP_eq (l : Nat) (p : List (Nat × B)) (hw : Nat → Option B) : applyP hw p l = (lastIn l p).or (hw l) := by
  induction p generalizing hw with
  | nil => rfl
  | cons x r ih =>
    rw [applyP, ih, lastIn_cons, Option.or_assoc]
    by_cases h : x.1 = l
    · simp [upd, h]
    · simp [upd, h, Ne.symm h]

theorem brightnessAt_done {f : Fade} {now m : Nat} {b : B} (h : brightnessAt f now m = (b, true)) : b = (f.tb, 255) := by
  unfold brightnessAt at h
  split at h
  · split at h <;> cases h
    rfl
  · cases h
    rfl

/-- light `l`, first of the taken `l :: rest`, was found transmitted already -/
def skipped (s : BSt) (l : Nat) (rest : List Nat) : BSt :=
  { s with pending := rest, cached := upd s.cached l true, roundDone := s.roundDone ++ [(l, true)] }

/-- `(l, b)` was put on the list; with its fade still running (`done = false`) `l` is re-scheduled -/
def queued (s : BSt) (l : Nat) (rest : List Nat) (b : B) (done : Bool) : BSt :=
  { s with pending := rest, cached := if done then upd s.cached l true else s.cached,
           last := upd s.last l (some (b, s.now + fdOf s l)), acc := s.acc ++ [(l, b)],
           accFade := if s.acc = [] then fdOf s l else s.accFade,
           roundDone := s.roundDone ++ [(l, false)], roundComp := s.roundComp ++ [(l, fdOf s l)],
           sched := if done then s.sched else s.sched ++ [(s.now + fdOf s l, l)] }

/-- queueing `(l, b)` changes what the platform has or will have for `l` only -/
theorem view_queued (s : BSt) (l : Nat) (rest : List Nat) (b : B) (done : Bool) (x : Nat) :
    view (queued s l rest b done) x = if l = x then some b else view s x := by
  rw [view_eq, view_eq]
  simp only [queued, lastIn_append, lastIn, Option.or_assoc]
  by_cases hx : l = x <;> simp [hx]

theorem compute_some {s0 : BSt} {l : Nat} {r : BSt × CRes} (h : compute s0 l = some r) :
    ∃ rest, (take s0).pending = l :: rest ∧
      ((r.1 = skipped (take s0) l rest ∧ Settled (take s0) l) ∨
       ∃ b done, r.1 = queued (take s0) l rest b done ∧ (done = true → b = (((take s0).fade l).tb, 255))) := by
  unfold compute at h
  obtain ⟨_, h⟩ := Option.ite_none_left_eq_some.mp h
  generalize take s0 = s at h ⊢
  dsimp only at h
  split at h
  · cases h
  next x rest hp =>
    obtain ⟨hx, h⟩ := Option.ite_none_left_eq_some.mp h
    obtain rfl : x = l := by simpa using hx
    refine ⟨rest, hp, ?_⟩
    cases hb : brightnessAt (s.fade x) s.now s.maxFade with
    | mk b done =>
      rw [hb] at h
      cases done with
      | false =>
        rw [if_neg Bool.false_ne_true] at h
        cases h
        exact Or.inr ⟨b, false, rfl, nofun⟩
      | true =>
        have hbt := brightnessAt_done hb
        rw [if_pos rfl] at h
        split at h
        next b0 t0 hlast =>
          by_cases hskip : eqB b0 b ∧ t0 < s.now + fdOf s x ∧ s.acc = []
          · rw [if_pos hskip] at h
            cases h
            exact Or.inl ⟨rfl, b0, t0, hlast, hbt ▸ hskip.1⟩
          · rw [if_neg hskip] at h
            cases h
            exact Or.inr ⟨b, true, rfl, fun _ => hbt⟩
        · cases h
          exact Or.inr ⟨b, true, rfl, fun _ => hbt⟩

theorem flush_some {s s' : BSt} (h : flush s = some s') :
    s.inflight = none ∧
    s' = { s with inflight := some s.acc, acc := [], inflightFade := s.accFade, roundSent := s.roundSent ++ [s.acc] } := by
  unfold flush at h
  split at h
  · cases h
  next hc =>
    cases h
    exact ⟨by simpa using (not_or.mp hc).1, rfl⟩

theorem flushKeep_some {s s' : BSt} (h : flushKeep s = some s') :
    s.inflight = none ∧ ∃ x p, s.acc = p ++ [x] ∧
      s' = { s with inflight := some p, acc := [x], inflightFade := s.accFade,
                    accFade := (s.roundComp.getLast?.map (·.2)).getD 0, roundSent := s.roundSent ++ [p] } := by
  unfold flushKeep at h
  split at h
  · cases h
  next hc =>
    split at h
    next x y r hrev =>
      cases h
      refine ⟨by simpa using hc, x, (y :: r).reverse, ?_, rfl⟩
      rw [← List.reverse_cons, ← hrev, List.reverse_reverse]
    · cases h

theorem delivered_some {s s' : BSt} (h : delivered s = some s') :
    ∃ p, s.inflight = some p ∧ s' = { s with hw := applyP s.hw p, inflight := none } := by
  unfold delivered at h
  split at h
  next p hp =>
    cases h
    exact ⟨p, hp, rfl⟩
  · cases h

theorem insertSet_sorted (l : Nat) (d : List Nat) (h : d.Pairwise (· < ·)) : (insertSet l d).Pairwise (· < ·) := by
  induction d with
  | nil => simp [insertSet]
  | cons x r ih =>
    obtain ⟨hx, hr⟩ := List.pairwise_cons.mp h
    unfold insertSet
    split
    · exact h
    · split
      next hlt =>
        exact List.pairwise_cons.mpr ⟨List.forall_mem_cons.mpr ⟨hlt, fun y hy => Nat.lt_trans hlt (hx y hy)⟩, h⟩
      next hne hnlt =>
        refine List.pairwise_cons.mpr ⟨fun y hy => ?_, ih hr⟩
        rcases (mem_insertSet _ _ _).mp hy with rfl | hy
        · omega
        · exact hx y hy

theorem foldl_insert_sorted (es : List (Nat × Nat)) (d0 : List Nat) (h : d0.Pairwise (· < ·)) :
    (es.foldl (fun d e => insertSet e.2 d) d0).Pairwise (· < ·) := by
  induction es generalizing d0 with
  | nil => exact h
  | cons e r ih => exact ih _ (insertSet_sorted _ _ h)

/-- no lost dirty light (`lost`, `view`), and the bookkeeping of the current round; a round starts when `take` swaps the
dirty set out and resets the ghost fields -/
structure Inv (s : BSt) : Prop where
  lost : D s
  view : H s
  sent : (s.roundSent.flatten ++ s.acc).map (·.1) = (s.roundDone.filter (fun x => !x.2)).map (·.1)
  done : s.roundDone.map (·.1) ++ s.pending = s.taken
  dirty : s.dirty.Pairwise (· < ·)
  taken : s.taken.Pairwise (· < ·)

theorem take_inv (s : BSt) (h : Inv s) : Inv (take s) := by
  unfold take
  split
  next hc =>
    refine ⟨fun l => ?_, h.view, by simp [hc.2.1], by simp, List.Pairwise.nil, h.dirty⟩
    rcases h.lost l with h | h | h | h
    · exact Or.inl h
    · exact Or.inr (Or.inr (Or.inl h))
    · simp [hc.1] at h
    · exact Or.inr (Or.inr (Or.inr h))
  · exact h

theorem mark_D (s : BSt) (l0 : Nat) (f : Fade) (h : D s) : D (mark s l0 f) := by
  intro l
  by_cases hl : l = l0
  · exact Or.inr (Or.inl ((mem_insertSet _ _ _).mpr (Or.inl hl)))
  · rcases h l with h | h | h | h | ⟨b, t, h1, h2⟩
    · exact Or.inl (by simpa [mark, upd, hl] using h)
    · exact Or.inr (Or.inl ((mem_insertSet _ _ _).mpr (Or.inr h)))
    · exact Or.inr (Or.inr (Or.inl h))
    · refine Or.inr (Or.inr (Or.inr (Or.inl ?_)))
      obtain ⟨e, he, rfl⟩ := List.mem_map.mp h
      exact List.mem_map.mpr ⟨e, List.mem_filter.mpr ⟨he, decide_eq_true hl⟩, rfl⟩
    · exact Or.inr (Or.inr (Or.inr (Or.inr ⟨b, t, h1, by simpa [mark, upd, hl] using h2⟩)))

theorem schedfire_D (s : BSt) (h : D s) : D (schedfire s) := by
  intro l
  rcases h l with h | h | h | h | h
  · exact Or.inl h
  · exact Or.inr (Or.inl ((mem_foldl_insert _ _ _).mpr (Or.inl h)))
  · exact Or.inr (Or.inr (Or.inl h))
  · obtain ⟨e, he, rfl⟩ := List.mem_map.mp h
    by_cases hd : e.1 ≤ s.now
    · exact Or.inr (Or.inl ((mem_foldl_insert _ _ _).mpr
        (Or.inr (List.mem_map.mpr ⟨e, List.mem_filter.mpr ⟨he, decide_eq_true hd⟩, rfl⟩))))
    · exact Or.inr (Or.inr (Or.inr (Or.inl (List.mem_map.mpr ⟨e, List.mem_filter.mpr ⟨he, by simpa using hd⟩, rfl⟩))))
  · exact Or.inr (Or.inr (Or.inr (Or.inr h)))

theorem D_computed {s s' : BSt} {x : Nat} {rest : List Nat} (h : D s) (hp : s.pending = x :: rest)
    (hv : s'.ver = s.ver) (hdi : s'.dirty = s.dirty) (hpe : s'.pending = rest) (hf : s'.fade = s.fade)
    (hsc : s.sched.Sublist s'.sched) (hla : ∀ l, l ≠ x → s'.last l = s.last l)
    (hx : x ∈ s'.sched.map (·.2) ∨ Settled s' x) : D s' := by
  intro l
  by_cases hl : l = x
  · exact Or.inr (Or.inr (Or.inr (hl ▸ hx)))
  · rcases h l with h | h | h | h | ⟨b, t, h1, h2⟩
    · exact Or.inl (hv ▸ h)
    · exact Or.inr (Or.inl (hdi ▸ h))
    · rw [hp] at h
      exact Or.inr (Or.inr (Or.inl (hpe ▸ (List.mem_cons.mp h).resolve_left hl)))
    · exact Or.inr (Or.inr (Or.inr (Or.inl ((hsc.map _).subset h))))
    · exact Or.inr (Or.inr (Or.inr (Or.inr ⟨b, t, hla l hl ▸ h1, hf ▸ h2⟩)))

theorem compute_inv {s0 : BSt} {l : Nat} {r : BSt × CRes} (h : Inv s0) (hr : compute s0 l = some r) : Inv r.1 := by
  obtain ⟨rest, hp, hcase⟩ := compute_some hr
  have h := take_inv s0 h
  generalize take s0 = s at hp hcase h
  -- `l` moves from `pending` to the end of `roundDone`, and, unless skipped, to the end of the open list
  have hdone (f : Bool) : (s.roundDone ++ [(l, f)]).map (·.1) ++ rest = s.taken := by
    rw [← h.done, hp, List.map_append, List.append_assoc]
    rfl
  rcases hcase with ⟨e, hset⟩ | ⟨b, done, e, hb⟩ <;> rw [e]
  · refine ⟨D_computed h.lost hp rfl rfl rfl rfl (List.Sublist.refl _) (fun _ _ => rfl) (Or.inr hset), h.view, ?_,
      hdone true, h.dirty, h.taken⟩
    show _ = ((s.roundDone ++ [(l, true)]).filter _).map _
    conv => rhs; rw [List.filter_append, List.map_append, ← h.sent]
    exact (List.append_nil _).symm
  · have hlast (x : Nat) (hx : x ≠ l) : (queued s l rest b done).last x = s.last x := if_neg hx
    refine ⟨?_, fun x => ?_, ?_, hdone false, h.dirty, h.taken⟩
    · cases done
      · exact D_computed h.lost hp rfl rfl rfl rfl (List.sublist_append_left ..) hlast
          (Or.inl (List.mem_map.mpr ⟨_, List.mem_append_right _ List.mem_cons_self, rfl⟩))
      · exact D_computed h.lost hp rfl rfl rfl rfl (List.Sublist.refl _) hlast
          (Or.inr ⟨b, s.now + fdOf s l, if_pos rfl, by rw [hb rfl]; rfl⟩)
    · rw [view_queued]
      by_cases hx : l = x
      · simp [queued, upd, hx]
      · rw [if_neg hx, h.view x, hlast x (Ne.symm hx)]
    · show (_ ++ (s.acc ++ [(l, b)])).map _ = ((s.roundDone ++ [(l, false)]).filter _).map _
      conv => rhs; rw [List.filter_append, List.map_append, ← h.sent]
      rw [← List.append_assoc, List.map_append]
      rfl

theorem step_inv (s : BSt) (o : Op) (h : Inv s) : Inv (step s o) := by
  cases o with
  | adv t => exact { h with }
  | mark l f => exact { h with lost := mark_D s l f h.lost, dirty := insertSet_sorted _ _ h.dirty }
  | schedfire => exact { h with lost := schedfire_D s h.lost, dirty := foldl_insert_sorted _ _ h.dirty }
  | compute l =>
    rw [step]
    split
    next r hr => exact compute_inv h hr
    · exact h
  | flush =>
    rw [step]
    cases hf : flush s with
    | none => exact h
    | some s' =>
      obtain ⟨hin, rfl⟩ := flush_some hf
      refine { h with view := fun l => ?_, sent := by simpa using h.sent }
      have := h.view l
      rw [view_eq, hin] at this
      rw [view_eq]
      exact this
  | flushKeep =>
    rw [step]
    cases hf : flushKeep s with
    | none => exact h
    | some s' =>
      obtain ⟨hin, x, p, hacc, rfl⟩ := flushKeep_some hf
      refine { h with view := fun l => ?_, sent := by simpa [hacc] using h.sent }
      have := h.view l
      rw [view_eq, hin, hacc, lastIn_append, Option.or_assoc] at this
      rw [view_eq]
      exact this
  | delivered =>
    rw [step]
    cases hf : delivered s with
    | none => exact h
    | some s' =>
      obtain ⟨p, hin, rfl⟩ := delivered_some hf
      refine { h with view := fun l => ?_ }
      have := h.view l
      rw [view_eq, hin] at this
      rw [view_eq]
      exact (congrArg ((lastIn l s.acc).or ·) (applyP_eq l p s.hw)).trans this

theorem run_inv (ops : List Op) (s : BSt) (h : Inv s) : Inv (run s ops) := by
  induction ops generalizing s with
  | nil => exact h
  | cons o r ih => exact ih _ (step_inv s o h)

theorem init_inv : D ({} : BSt) ∧ H ({} : BSt) := ⟨fun _ => Or.inl rfl, fun _ => rfl⟩

theorem inv_empty : Inv {} := ⟨init_inv.1, init_inv.2, rfl, rfl, List.Pairwise.nil, List.Pairwise.nil⟩

end MpfVerif.Batch
