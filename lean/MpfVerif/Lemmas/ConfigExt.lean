import MpfVerif.Lemmas.Config
import MpfVerif.Model.ConfigExtDriver
/-! Helper lemmas for the C12 extension (non-scalar validators, recursive sections). -/
namespace MpfVerif.C12
open MpfVerif.Config MpfVerif.ConfigExt

theorem rtOfR_ok {r : R} {out : T} (h : rtOfR r = .ok out) : ∃ y, out = .s y ∧ r = .ok y := by
  cases r <;> cases h
  exact ⟨_, rfl, rfl⟩

theorem hasTypeX_none (env : Env) (vd : XV) : HasTypeX env vd (.s .none) = true := by
  cases vd <;> rfl

variable {env : Env} {y : Y} {out : T}

theorem hasTypeX_base {v : V} (hp : v ≠ .pow2) (y : Y) : HasTypeX env (.base v) (.s y) = HasType v y := by
  cases v with
  | pow2 => exact (hp rfl).elim
  | _ => cases y <;> rfl

/-- `pow2` answers None for None, else the item itself, whose `int(..)` is a power of two -/
theorem vPow2_ok {y out : Y} (h : vPow2 y = .ok out) :
    out = .none ∨ (out = y ∧ y ≠ .none ∧ ∃ i, intConv y = .ok (.int i) ∧ isPow2 i = true) := by
  unfold vPow2 at h
  split at h
  · cases h; exact .inl rfl
  · next hy =>
    cases hi : intConv y with
    | ok v =>
      rw [hi] at h
      cases v with
      | int i =>
        dsimp only at h
        split at h <;> cases h
        exact .inr ⟨rfl, fun e => hy e, i, rfl, ‹_›⟩
      | _ => cases h
    | _ => rw [hi] at h; cases h

theorem vPow2_typed {y out : Y} (h : vPow2 y = .ok out) : HasTypeX env (.base .pow2) (.s out) = true := by
  rcases vPow2_ok h with rfl | ⟨rfl, hy, i, hi, hp⟩
  · rfl
  · cases out with
    | none => exact (hy rfl).elim
    | _ => simp only [HasTypeX, hi, hp]

theorem colorPieces_color {n : Nat} {ps : List (List Char)} {acc : List Int}
    (h : colorPieces n ps acc = .ok out) : ∃ r g b, out = .color r g b := by
  induction n generalizing ps acc with
  | zero =>
    unfold colorPieces at h
    split at h <;> cases h
    exact ⟨_, _, _, rfl⟩
  | succ n ih =>
    cases ps with
    | nil => cases h
    | cons p rest =>
      simp only [colorPieces] at h
      split at h
      · cases h
      · split at h
        · exact ih h
        · cases h
        · cases h

theorem vColor_typed (h : vColor y = .ok out) : HasTypeX env .color out = true := by
  suffices ∃ r g b, out = .color r g b by obtain ⟨r, g, b, rfl⟩ := this; rfl
  unfold vColor at h
  split at h
  · cases h
  · split at h
    · -- a colour name
      cases h; exact ⟨_, _, _, rfl⟩
    · dsimp only at h
      split at h
      · -- six to eight hex digits
        split at h <;> cases h
        exact ⟨_, _, _, rfl⟩
      · -- `r,g,b`
        split at h
        · cases h
        · split at h
          · cases h
          · exact colorPieces_color h

theorem clamp01_typed (h : clamp01 y = .ok out) : HasTypeX env .gain out = true := by
  unfold clamp01 at h
  split at h
  · split at h
    · cases h; rfl
    · split at h <;> cases h
      · rfl
      · simp only [HasTypeX, inUnit, Bool.and_eq_true, decide_eq_true_eq]
        omega
  · cases h; rfl
  · cases h; split <;> rfl
  · cases h

theorem vGain_typed (h : vGain y = .ok out) : HasTypeX env .gain out = true := by
  unfold vGain at h
  split at h
  · cases h; rfl
  · exact clamp01_typed h
  · exact clamp01_typed h
  · exact clamp01_typed h
  · -- any other item goes through `str(item).lower()`
    split at h
    · cases h
    · dsimp only at h
      split at h
      · cases h
      · split at h
        · -- "-inf…" is gain 0
          cases h; rfl
        · split at h
          · -- "…db": only values from 0 dB up are decided, they are gain 1
            split at h <;> try cases h
            split at h <;> cases h
            rfl
          · -- a number is clamped, unparsable text is gain 1
            split at h
            · exact clamp01_typed h
            · cases h; rfl
            · cases h

theorem vIntFromHex_typed (h : vIntFromHex y = .ok out) :
    HasTypeX env .intFromHex out = true := by
  unfold vIntFromHex at h
  split at h
  · cases h
  · split at h <;> cases h
    simp only [HasTypeX, decide_eq_true_eq]
    split <;> omega

theorem exprTmpl_ok {k : TK} {s : String} (h : exprTmpl env k s = .ok out) :
    out = .tmpl k false (.str s) := by
  unfold exprTmpl at h
  split at h <;> cases h
  rfl

theorem floatOfP_isFloat {p : P Y} {out : Y} (h : floatOfP p = .ok out) : isFloatY out = true := by
  unfold floatOfP at h
  split at h <;> cases h <;> rfl

theorem tmplFloat_typed (h : tmplFloat env y = .ok out) :
    HasTypeX env (.tmpl .float) out = true := by
  unfold tmplFloat at h
  split at h
  · split at h
    · cases h
      exact floatOfP_isFloat ‹_›
    · rw [exprTmpl_ok h]; rfl
    · cases h
  · cases h
  · split at h
    · cases h
    · cases h
      have := floatConv_typed ‹floatConv _ = _›
      rename_i v hn _
      cases v with
      | none => exact (hn rfl).elim
      | bool b => exact this
      | int i => exact this
      | str s => exact this
      | _ => rfl
    · cases h

theorem tmplInt_typed (h : tmplInt env y = .ok out) :
    HasTypeX env (.tmpl .int) out = true := by
  unfold tmplInt at h
  split at h
  · split at h
    · cases h; rfl
    · rw [exprTmpl_ok h]; rfl
    · cases h
  · cases h; rfl
  · cases h; rfl
  · cases h

theorem hasTypeX_tmpl_congr {k k' : TV} (hk : ∀ c n v, tmplClassOk k c n v = tmplClassOk k' c n v)
    (h : HasTypeX env (.tmpl k) out = true) : HasTypeX env (.tmpl k') out = true := by
  cases out with
  | s y => cases y <;> exact h
  | tmpl c n v => exact (hk c n v).symm.trans h
  | _ => exact h

theorem tmplBool_typed (h : tmplBool env y = .ok out) : HasTypeX env (.tmpl .bool) out = true := by
  unfold tmplBool at h
  split at h
  · cases h; rfl
  · rw [exprTmpl_ok h]; rfl
  · cases h

/-- what `string_to_secs` accepts is a constant; what it refuses goes to the float template builder -/
theorem tmplSecs_typed (h : tmplSecs env y = .ok out) : HasTypeX env (.tmpl .secs) out = true := by
  unfold tmplSecs at h
  split at h
  · cases h
  · cases hv : vSecs y with
    | ok v =>
      rw [hv] at h
      cases v with
      | rat n d => cases h; rfl
      | _ => cases h
    | reject =>
      rw [hv] at h
      exact hasTypeX_tmpl_congr (k := .float) (fun _ _ _ => rfl) (tmplFloat_typed h)
    | _ => rw [hv] at h; cases h

theorem tmplMs_typed (h : tmplMs env y = .ok out) : HasTypeX env (.tmpl .ms) out = true := by
  unfold tmplMs at h
  split at h
  · cases h
  · cases hv : vMs y with
    | ok v =>
      rw [hv] at h
      cases v with
      | int i => cases h; rfl
      | _ => cases h
    | reject =>
      rw [hv] at h
      exact hasTypeX_tmpl_congr (k := .int) (fun _ _ _ => rfl) (tmplInt_typed h)
    | _ => rw [hv] at h; cases h

theorem tmplStr_typed (h : tmplStr env y = .ok out) : HasTypeX env (.tmpl .str) out = true := by
  unfold tmplStr at h
  split at h
  · cases h
  · dsimp only at h
    split at h
    · -- a text template (`{…}`)
      cases h; rfl
    · split at h
      · rw [exprTmpl_ok h]; rfl
      · cases h; rfl

theorem vTmpl_typed {k : TV} (h : vTmpl env k y = .ok out) :
    HasTypeX env (.tmpl k) out = true := by
  unfold vTmpl at h
  split at h
  · cases h; rfl
  · cases k with
    | float => exact tmplFloat_typed h
    | int =>
      dsimp only at h
      split at h
      · exact tmplInt_typed h
      · cases h
    | bool => exact tmplBool_typed h
    | secs => exact tmplSecs_typed h
    | ms => exact tmplMs_typed h
    | str => exact tmplStr_typed h

theorem vMachine_typed {c : String} (h : vMachine env c y = .ok out) :
    HasTypeX env (.machine c) out = true := by
  unfold vMachine at h
  split at h
  · cases h; rfl
  · split at h
    · cases h
    · split at h <;> cases h
      simpa only [HasTypeX, beq_self_eq_true, Bool.true_and]
  · cases h

theorem vScalarX_typed {vd : XV} (h : vScalarX env vd y = .ok out) :
    HasTypeX env vd out = true := by
  induction vd with
  | base v =>
    obtain ⟨o, rfl, h'⟩ := rtOfR_ok h
    by_cases hp : v = .pow2
    · subst hp; exact vPow2_typed h'
    · rw [hasTypeX_base hp]
      cases v with
      | int r => exact vInt_typed h'
      | float r => exact vFloat_typed h'
      | num r => exact vNum_typed h'
      | bool => exact vBool_typed h'
      | str => exact vStr_typed (l := false) h'
      | lstr => exact vStr_typed (l := true) h'
      | ms => exact vMs_typed h'
      | secs => exact vSecs_typed h'
      | enum vals => exact vEnum_typed h'
      | pow2 => exact (hp rfl).elim
      | boolInt => exact vBoolInt_typed h'
  | evstr =>
    obtain ⟨o, rfl, h'⟩ := rtOfR_ok h
    have := vStr_typed h'
    cases o with
    | none => rfl
    | str s => rfl
    | _ => exact this
  | orToken inner ih =>
    simp only [vScalarX] at h
    split at h
    · cases h; rfl
    · have := ih h
      cases out with
      | s y =>
        cases y with
        | none => rfl
        | _ => exact this
      | token s => rfl
      | _ => exact this
  | intFromHex => exact vIntFromHex_typed h
  | color => exact vColor_typed h
  | gain => exact vGain_typed h
  | tmpl k => exact vTmpl_typed h
  | machine c => exact vMachine_typed h
  | _ => cases h

theorem valElems_typed {f : T → RT} {p : T → Bool} (hf : ∀ x o, f x = .ok o → p o = true) {chk : Bool} :
    ∀ {xs : List T} {out : T}, valElems f chk xs = .ok out → allT p out = true
  | [], _, h => by cases h; rfl
  | x :: rest, _, h => by
    unfold valElems at h
    split at h
    · cases h
    · cases hx : f x with
      | ok v =>
        rw [hx] at h
        cases hr : valElems f chk rest with
        | ok o =>
          rw [hr] at h
          cases o with
          | l vs =>
            cases h
            have := valElems_typed hf hr
            simp only [allT, List.all_cons, Bool.and_eq_true] at this ⊢
            exact ⟨hf x v hx, this⟩
          | _ => cases h
        | _ => rw [hr] at h; cases h
      | _ => rw [hx] at h; cases h

theorem valPairs_typed {fk fv : T → RT} {pk pv : T → Bool} (hk : ∀ x o, fk x = .ok o → pk o = true)
    (hv : ∀ x o, fv x = .ok o → pv o = true) :
    ∀ {kvs : List (Y × T)} {out : T}, valPairs fk fv kvs = .ok out →
      ∃ ps, out = .d ps ∧ ps.all (fun p => pk (.s p.1) && pv p.2) = true
  | [], _, h => by cases h; exact ⟨[], rfl, rfl⟩
  | (k, v) :: rest, _, h => by
    unfold valPairs at h
    split at h
    · rename_i k' v' hkk hvv
      generalize hr : valPairs fk fv rest = r' at h
      rcases r' with o | _ | _ | _ <;> try cases h
      obtain ⟨ps, rfl, hty⟩ := valPairs_typed hk hv hr
      dsimp only at h
      split at h <;> cases h
      refine ⟨(k', v') :: ps, rfl, ?_⟩
      simp only [List.all_cons, Bool.and_eq_true]
      exact ⟨⟨hk _ _ hkk, hv _ _ hvv⟩, hty⟩
    all_goals cases h

theorem valDictV_ok {t : T} (h : valDictV t = .ok out) : ∃ kvs, out = .d kvs := by
  unfold valDictV at h
  split at h
  · exact ⟨_, (RT.ok.inj h).symm⟩
  · split at h <;> cases h
    exact ⟨_, rfl⟩
  · split at h <;> cases h
    exact ⟨_, rfl⟩
  · split at h <;> cases h
    exact ⟨_, rfl⟩
  · split at h <;> cases h
    exact ⟨_, rfl⟩
  · cases h
  · split at h <;> cases h
    exact ⟨_, rfl⟩
  · exact ⟨_, (RT.ok.inj h).symm⟩
  · cases h

theorem valListV_ok {t : T} (h : valListV t = .ok out) : ∃ xs, out = .l xs := by
  unfold valListV at h
  split at h
  · exact ⟨_, (RT.ok.inj h).symm⟩
  · dsimp only at h
    split at h
    · exact ⟨_, (RT.ok.inj h).symm⟩
    · split at h <;> cases h
      exact ⟨_, rfl⟩
  · exact ⟨_, (RT.ok.inj h).symm⟩
  · exact ⟨_, (RT.ok.inj h).symm⟩
  · cases h
  · cases h

theorem valContainer_ok {v : XV} (h : valContainer v = .ok out) : v = .gain ∧ out = .s (.rat 1 1) := by
  unfold valContainer at h
  split at h <;> cases h
  exact ⟨rfl, rfl⟩

/- `sub` validates a sub-section by name, `wsub` is its well-typedness. -/
variable {sub : List String → T → RT} {wsub : List String → T → Bool}
  (hs : ∀ names t o, sub names t = .ok o → wsub names o = true)
include hs

theorem valOne_typed (vd : XV) (item out : T) (h : valOne sub env vd item = .ok out) :
    wtOne wsub env vd out = true := by
  have scalar {v : XV} (hv : valScalarT env v (preNoneT item) = .ok out) : HasTypeX env v out = true := by
    unfold valScalarT at hv
    split at hv
    · exact vScalarX_typed hv
    · obtain ⟨rfl, rfl⟩ := valContainer_ok hv; rfl
    · obtain ⟨rfl, rfl⟩ := valContainer_ok hv; rfl
    · cases hv
  cases vd with
  | subconfig names =>
    simp only [valOne] at h
    split at h
    · cases h; rfl
    · have := hs _ _ _ h
      simp only [wtOne]
      split <;> trivial
  | dict =>
    obtain ⟨kvs, rfl⟩ := valDictV_ok (t := preNoneT item) h
    rfl
  | list =>
    obtain ⟨xs, rfl⟩ := valListV_ok (t := preNoneT item) h
    rfl
  | _ => exact scalar h

theorem valItem_typed (k : Key) (item out : T) (h : valItem sub env k item = .ok out) :
    wtItem wsub env k out = true := by
  have one := valOne_typed hs (env := env)
  unfold valItem at h
  unfold wtItem
  cases hit : k.it with
  | single =>
    rw [hit] at h
    exact one _ _ _ h
  | list =>
    simp only [hit] at h ⊢
    split at h
    · exact valElems_typed (one k.vd) h
    · cases h
    · cases h
  | set =>
    simp only [hit] at h ⊢
    split at h
    · split at h
      · cases h
      · exact valElems_typed (one k.vd) h
    · cases h
    · cases h
  | dict =>
    simp only [hit] at h ⊢
    cases hvv : k.vvd with
    | none => rw [hvv] at h; cases h
    | some vv =>
      simp only [hvv] at h ⊢
      split at h
      · cases h; rfl
      · split at h <;> cases h
        rfl
      · obtain ⟨ps, rfl, hp⟩ := valPairs_typed (one k.vd) (one vv) h
        exact hp
      · cases h
      · cases h
      · cases h
  | eventHandler =>
    simp only [hit] at h ⊢
    cases hvv : k.vvd with
    | none => rw [hvv] at h; cases h
    | some vv =>
      simp only [hvv] at h ⊢
      split at h
      · obtain ⟨ps, rfl, hp⟩ := valPairs_typed (one k.vd) (one vv) h
        exact hp
      · cases h
      · cases h

theorem valKeyHere_typed (secName : String) (src : List (Y × T)) (k : Key) (v : T)
    (h : valKeyHere sub env secName src k = .ok v) :
    (if k.kind == 2 then allT (wsub [secName ++ ":" ++ k.key]) v else wtItem wsub env k v) = true := by
  unfold valKeyHere at h
  split at h
  · -- a nested section: a list of dicts, each validated as `<sec>:<key>`
    rw [if_pos ‹_›]
    split at h
    · cases h; rfl
    · exact valElems_typed (hs _) h
    · split at h <;> cases h
      rfl
    · split at h <;> cases h
      rfl
    · cases h
  · -- the provided item, else the default, else rejected
    rw [if_neg ‹_›]
    split at h
    · exact valItem_typed hs k _ _ h
    · split at h
      · exact valItem_typed hs k _ _ h
      · cases h

/-- positional: the result lists every non-skipped key of the spec, in order, each well typed;
and every result key is a spec key -/
theorem valKeys_typed (secName : String) (src : List (Y × T)) :
    ∀ (keys : List Key) {out : T}, valKeys sub env secName src keys = .ok out →
      ∃ kvs, out = .d kvs ∧ (∀ tail, wtKeys wsub env secName keys (kvs ++ tail) = true) ∧
        ∀ p ∈ kvs, ∃ k ∈ keys, p.1 = .str k.key
  | [], _, h => by cases h; exact ⟨[], rfl, fun _ => rfl, fun _ hp => absurd hp List.not_mem_nil⟩
  | k :: rest, _, h => by
    unfold valKeys at h
    split at h
    · obtain ⟨kvs, rfl, hw, hk⟩ := valKeys_typed secName src rest h
      refine ⟨kvs, rfl, fun tail => ?_, fun p hp => ?_⟩
      · show (if skipped k then wtKeys wsub env secName rest (kvs ++ tail) else _) = true
        rw [if_pos ‹_›]; exact hw tail
      · obtain ⟨k', hk', e⟩ := hk p hp; exact ⟨k', List.mem_cons_of_mem _ hk', e⟩
    · split at h
      · rename_i v hv
        generalize hr : valKeys sub env secName src rest = r at h
        rcases r with o | _ | _ | _ <;> try cases h
        obtain ⟨kvs, rfl, hw, hk⟩ := valKeys_typed secName src rest hr
        cases h
        refine ⟨(.str k.key, v) :: kvs, rfl, fun tail => ?_, fun p hp => ?_⟩
        · show (if skipped k then _
              else (Y.str k.key == Y.str k.key && _ && wtKeys wsub env secName rest (kvs ++ tail))) = true
          rw [if_neg ‹_›, beq_self_eq_true, valKeyHere_typed hs secName src k v hv, hw tail]; rfl
        · rcases List.mem_cons.mp hp with rfl | hp
          · exact ⟨k, List.mem_cons_self, rfl⟩
          · obtain ⟨k', hk', e⟩ := hk p hp; exact ⟨k', List.mem_cons_of_mem _ hk', e⟩
      · cases h
      · split at h <;> cases h
      · split at h <;> cases h

omit hs

theorem knownKey_of_spec {sec : Sec} {k : Key} (hk : k ∈ sec.keys) : knownKey sec (.str k.key) = true :=
  Bool.or_eq_true_iff.mpr (.inl (List.any_eq_true.mpr ⟨k, hk, beq_self_eq_true _⟩))

/- The kernel decides `s == t` on `String`s by UTF-8-encoding both sides at every comparison; `strKey` encodes a name
once into a `Nat` (bijective base 256), and equality of `Nat` literals is a single step. -/

def bytesKey : List UInt8 → Nat
  | [] => 0
  | b :: l => 256 * bytesKey l + (b.toNat + 1)

theorem bytesKey_inj : ∀ {l m : List UInt8}, bytesKey l = bytesKey m → l = m
  | [], [], _ => rfl
  | [], _ :: _, h => by cases h
  | _ :: _, [], h => by cases h
  | a :: l, b :: m, h => by
    have := a.toNat_lt
    have := b.toNat_lt
    obtain ⟨h1, h2⟩ : bytesKey l = bytesKey m ∧ a.toNat = b.toNat := by
      change 256 * bytesKey l + (a.toNat + 1) = 256 * bytesKey m + (b.toNat + 1) at h
      omega
    rw [bytesKey_inj h1, UInt8.toNat_inj.mp h2]

def strKey (s : String) : Nat := bytesKey s.toByteArray.data.toList

theorem strKey_inj {s t : String} (h : strKey s = strKey t) : s = t :=
  String.toByteArray_inj.mp (ByteArray.ext (Array.ext' (bytesKey_inj h)))

end MpfVerif.C12
