import MpfVerif.Model.PyExec
import MpfVerif.Lemmas.PyEvalAttr
/-! A small program logic for the deep embedding in `Model/PyExec.lean`, proved once.

`Triple c P prog Q R`: started in locals satisfying `P`, `prog` either raises, or falls through into locals
satisfying `Q`, or returns a value satisfying `R`. -/
namespace MpfVerif.Py

@[pyeval] theorem pure_eq_ok {ε α} (a : α) : (pure a : Except ε α) = .ok a := rfl
@[pyeval] theorem ok_bind {ε α β} (a : α) (f : α → Except ε β) : (Except.ok a >>= f) = f a := rfl
@[pyeval] theorem error_bind {ε α β} (e : ε) (f : α → Except ε β) : (Except.error e >>= f) = .error e := rfl
@[pyeval] theorem throw_eq_error {ε α} (e : ε) : (throw e : Except ε α) = .error e := rfl

attribute [pyeval] evalE evalC

theorem bind_eq_ok {ε α β} {x : Except ε α} {f : α → Except ε β} {b : β} :
    x >>= f = .ok b ↔ ∃ a, x = .ok a ∧ f a = .ok b := by
  cases x <;> simp [pyeval]

theorem isInt_cases {v : PyVal} (h : v.isInt = true) : (∃ i, v = .int i) ∨ v = .bool true ∨ v = .bool false := by
  cases v with
  | int i => exact .inl ⟨i, rfl⟩
  | bool b => cases b <;> simp
  | _ => simp [PyVal.isInt] at h

theorem num_of_isInt {v : PyVal} (h : v.isInt = true) : v.num.isSome = true := by
  rcases isInt_cases h with ⟨i, rfl⟩ | rfl | rfl <;> rfl

theorem pyCmp_num {op : String} {a b : PyVal} (ha : a.num.isSome = true) (hb : b.num.isSome = true) :
    ∃ r, pyCmp op a b = .ok r := by
  obtain ⟨x, hx⟩ := Option.isSome_iff_exists.1 ha
  obtain ⟨y, hy⟩ := Option.isSome_iff_exists.1 hb
  unfold pyCmp
  rw [hx, hy]
  cases x <;> cases y <;> exact ⟨_, rfl⟩

def Triple (c : Ctx) (P : Locals → Prop) (prog : List St) (Q : Locals → Prop) (R : PyVal → Prop) : Prop :=
  ∀ l, P l → match execL c l prog with
    | .ok (.next l') => Q l'
    | .ok (.done v) => R v
    | .error _ => True

theorem execL_cons (c : Ctx) (l : Locals) (s : St) (rest : List St) :
    execL c l (s :: rest) = (do match (← execS c l s) with
      | .next l' => execL c l' rest
      | .done v => pure (.done v)) := by
  rw [execL]; rfl

theorem execL_single (c : Ctx) (l : Locals) (s : St) : execL c l [s] = execS c l s := by
  rw [execL_cons]
  rcases execS c l s with _ | _ | _ <;> rfl

theorem Triple.cons {c : Ctx} {P : Locals → Prop} (Q : Locals → Prop) {Q' : Locals → Prop} {R} {s : St} {rest : List St}
    (h1 : Triple c P [s] Q R) (h2 : Triple c Q rest Q' R) : Triple c P (s :: rest) Q' R := by
  intro l hP
  have a := h1 l hP
  rw [execL_single] at a
  rw [execL_cons]
  generalize execS c l s = x at a ⊢
  rcases x with _ | l' | v
  · trivial
  · exact h2 l' a
  · exact a

theorem Triple.weaken {c : Ctx} {P Q Q' : Locals → Prop} {R prog} (h : Triple c P prog Q R)
    (hq : ∀ l, Q l → Q' l) : Triple c P prog Q' R := by
  intro l hP
  have := h l hP
  generalize execL c l prog = x at this ⊢
  rcases x with _ | l' | v
  · trivial
  · exact hq l' this
  · exact this

theorem Triple.strengthen {c : Ctx} {P P' Q : Locals → Prop} {R prog} (h : Triple c P prog Q R)
    (hp : ∀ l, P' l → P l) : Triple c P' prog Q R := fun l hP => h l (hp l hP)

theorem Triple.skip {c : Ctx} {P : Locals → Prop} {R} : Triple c P [] P R := fun _ hP => hP

theorem Triple.raise {c : Ctx} {P Q : Locals → Prop} {R} {e : Err} : Triple c P [St.raise e] Q R := fun _ _ => trivial

theorem Triple.ite {c : Ctx} {P Q : Locals → Prop} {R} {cd : Cd} {body orelse : List St}
    (hb : Triple c (fun l => P l ∧ evalC c l cd = .ok true) body Q R)
    (he : Triple c (fun l => P l ∧ evalC c l cd = .ok false) orelse Q R) :
    Triple c P [St.ifThen cd body orelse] Q R := by
  intro l hP
  rw [execL_single, execS]
  cases h : evalC c l cd with
  | error _ => trivial
  | ok b =>
    cases b
    · exact he l ⟨hP, h⟩
    · exact hb l ⟨hP, h⟩

theorem Triple.ifRaise (c : Ctx) (P : Locals → Prop) (R) (cd : Cd) (e : Err) :
    Triple c P [St.ifThen cd [St.raise e] []] (fun l => P l ∧ evalC c l cd = .ok false) R :=
  .ite Triple.raise Triple.skip

theorem Triple.assign {c : Ctx} {P Q : Locals → Prop} {R} {n : String} {e : Ex}
    (h : ∀ l v, P l → evalE c l e = .ok v → Q (fun m => if m = n then v else l m)) :
    Triple c P [St.assign n e] Q R := by
  intro l hP
  rw [execL_single, execS]
  cases hv : evalE c l e with
  | error _ => trivial
  | ok v => exact h l v hP hv

theorem Triple.ifAssign_top {c : Ctx} {P : Locals → Prop} {R} {cd : Cd} {n : String} {e : Ex} :
    Triple c P [St.ifThen cd [St.assign n e] []] (fun _ => True) R :=
  .ite (Triple.assign fun _ _ _ _ => trivial) (Triple.weaken Triple.skip fun _ _ => trivial)

theorem Triple.ret {c : Ctx} {P : Locals → Prop} {R : PyVal → Prop} {n : String}
    (h : ∀ l, P l → R (l n)) : Triple c P [St.ret (.var n)] (fun _ => False) R := by
  intro l hP
  rw [execL_single]
  exact h l hP

/-- a statement list that cannot return (no `ret` anywhere) -/
def noRet : List St → Bool
  | [] => true
  | .ret _ :: _ => false
  | .ifThen _ b e :: r => noRet b && noRet e && noRet r
  | _ :: r => noRet r

theorem call_of_triple {c : Ctx} {prog : List St} {R : PyVal → Prop} (args : List (String × PyVal)) (v : PyVal)
    (h : Triple c (fun _ => True) prog (fun _ => False) R) (hc : call c prog args = .ok v) : R v := by
  have := h (fun n => (args.lookup n).getD .none) trivial
  simp only [call] at hc
  generalize execL c (fun n => (args.lookup n).getD .none) prog = x at this hc
  rcases x with _ | l' | w
  · cases hc
  · exact False.elim this
  · cases hc; exact this

/-- Bool-valued range test on the numeric view (micro-units); false for NaN and non-numbers -/
def inRangeB (v : PyVal) (lo hi : Int) : Bool :=
  match v.num with
  | some (some m) => decide (lo ≤ m) && decide (m ≤ hi)
  | _ => false

def geB (v : PyVal) (lo : Int) : Bool :=
  match v.num with
  | some (some m) => decide (lo ≤ m)
  | _ => false

end MpfVerif.Py
