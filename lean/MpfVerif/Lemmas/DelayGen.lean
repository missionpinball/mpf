import MpfVerif.Model.DelayGen
import MpfVerif.Lemmas.Delay
import MpfVerif.Lemmas.PyEff
/-!
# The hand model of the DelayManager does what the generated programs do (C13)

One lemma per translated method of `Gen/DelayOps.lean` (`*_run`): what the program returns, what it leaves in the dict and
which calls it makes, started on the dict `heapOf N ds` of a hand-model state.  The `*_refines` lemmas fold the calls with
`applyEff` and compare with `stepCmd`.
-/
namespace MpfVerif.Delay
open MpfVerif.Py MpfVerif.Gen.DelayOps

theorem nm_inj (N : Names) {a b : Nat} (h : N.nm a = N.nm b) : a = b := by
  have := congrArg N.unnm h
  simpa [N.inv] using this

theorem nm_beq (N : Names) (a b : Nat) : (N.nm a == N.nm b) = (a == b) := by
  by_cases h : a = b
  · subst h; simp
  · have : N.nm a ≠ N.nm b := fun e => h (nm_inj N e)
    rw [beq_eq_false_iff_ne.mpr this, beq_eq_false_iff_ne.mpr h]

theorem dictHas_heapOf (N : Names) (ds : List Entry) (n : Nat) :
    dictHas (heapOf N ds) (N.nm n) = ds.any (fun e => e.name == n) := by
  simp [heapOf, dictHas, List.any_map, encEntry, nm_beq, Function.comp_def]

theorem dictFind_heapOf (N : Names) (ds : List Entry) (n : Nat) :
    dictFind (heapOf N ds) (N.nm n) =
      (ds.find? (fun e => e.name == n)).map (fun e => [.int e.hid, .int e.cb, .int e.arg]) := by
  simp [heapOf, dictFind, List.find?_map, Option.map_map, encEntry, nm_beq, Function.comp_def]

theorem dictErase_heapOf (N : Names) (ds : List Entry) (n : Nat) (hp : ds.Pairwise (fun a b => a.name ≠ b.name)) :
    dictErase (heapOf N ds) (N.nm n) = heapOf N (ds.filter (fun x => x.name != n)) := by
  induction ds with
  | nil => rfl
  | cons e r ih =>
    obtain ⟨h1, h2⟩ := List.pairwise_cons.mp hp
    by_cases h : e.name = n
    · have : r.filter (fun x => x.name != n) = r :=
        List.filter_eq_self.mpr fun x hx => by simpa [← h] using (h1 x hx).symm
      simp [heapOf, dictErase, encEntry, h, this]
    · simpa [heapOf, dictErase, encEntry, nm_beq, h] using ih h2

theorem dictSet_heapOf_new (N : Names) (ds : List Entry) (n h c : Nat) (a : Int) (hn : ∀ e ∈ ds, e.name ≠ n) :
    dictSet (heapOf N ds) (N.nm n) [.int h, .int c, .int a] = heapOf N (ds ++ [⟨n, h, c, a⟩]) := by
  induction ds with
  | nil => rfl
  | cons e r ih =>
    have h1 : (e.name == n) = false := by simpa using hn e (by simp)
    simp only [heapOf, dictSet, List.map_cons, encEntry, nm_beq, h1, Bool.false_eq_true, if_false, List.cons_append]
    have := ih (fun x hx => hn x (by simp [hx]))
    simp only [heapOf] at this
    rw [this]

/-! The interpreter is run by `simp`; a method call unfolds to the run of the callee, which the callee's own lemma gives
through `dropL_done` / `dropL_next`. -/

/-- a result without the locals: `some v` = returned `v`, `none` = fell through -/
def dropL : DRes → Dict × List Eff × Except Err (Option PyVal)
  | (H, log, .ok (.done v)) => (H, log, .ok (some v))
  | (H, log, .ok (.next _)) => (H, log, .ok none)
  | (H, log, .error x) => (H, log, .error x)

attribute [local simp] execDS execDL execFor execTL evalD evalA evalE evalC evalDArgs evalDList bindMany bindTarget
  List.lookup dropL argLocals_apply ok_bind pure_eq_ok

/-- `x = self.f(...)` seen through `dropL` of the callee -/
theorem execDS_call (c : Ctx) (ora : DOracle) (H : Dict) (l : Locals) (t : Option String) (prog : List Py.DSt)
    (args : List (String × DEx)) :
    execDS c ora H l (.call t prog args) =
      match evalDArgs c H l args with
      | .error x => (H, [], .error x)
      | .ok vs =>
        match dropL (execDL c ora H (argLocals vs) prog) with
        | (H', log, .ok (some v)) => (H', log, .ok (.next (bindTarget l t v)))
        | (H', log, .ok none) => (H', log, .ok (.next (bindTarget l t .none)))
        | (H', log, .error x) => (H', log, .error x) := by
  simp only [execDS]
  cases evalDArgs c H l args with
  | error x => rfl
  | ok vs =>
    simp only []
    rcases execDL c ora H (argLocals vs) prog with ⟨H', log, r⟩
    rcases r with x | (l' | v) <;> rfl

theorem resOf_eq (r : DRes) : resOf r = ((dropL r).1, (dropL r).2.1, (dropL r).2.2.map (fun o => o.getD .none)) := by
  rcases r with ⟨H', log, r⟩
  rcases r with x | (l' | v) <;> rfl

theorem dropL_done {r : DRes} {H : Dict} {log : List Eff} {v : PyVal} (h : dropL r = (H, log, .ok (some v))) :
    r = (H, log, .ok (.done v)) := by
  rcases r with ⟨H', log', r⟩
  rcases r with x | (l' | w) <;> simp [dropL] at h ⊢ <;> exact h

theorem dropL_next {r : DRes} {H : Dict} {log : List Eff} (h : dropL r = (H, log, .ok none)) :
    ∃ l', r = (H, log, .ok (.next l')) := by
  rcases r with ⟨H', log', r⟩
  rcases r with x | (l' | w) <;> simp [dropL] at h
  exact ⟨l', by simp [h]⟩

theorem dropL_ok {r : DRes} {H : Dict} {log : List Eff} {v : Option PyVal} (h : dropL r = (H, log, .ok v)) :
    ∃ o, r = (H, log, .ok o) := by
  rcases r with ⟨H', log', r⟩
  rcases r with x | o
  · simp at h
  · refine ⟨o, ?_⟩
    cases o <;> simp at h <;> simp [h]

theorem callD_eq (c : Ctx) (ora : DOracle) (H : Dict) (prog : List Py.DSt) (args : List (String × PyVal))
    {H' : Dict} {log : List Eff} {r : Except Err (Option PyVal)}
    (h : dropL (execDL c ora H (argLocals args) prog) = (H', log, r)) :
    callD c ora H prog args = (H', log, r.map (fun o => o.getD .none)) := by
  rw [callD, resOf_eq, h]

/-- the clock, `uuid.uuid4()` and the event queue do not raise; `schedule_once` returns the handle the model numbers
`nextId`; `uuid4` the fresh name.  What a *callback* answers (a value or any exception) is left open. -/
def OraOk (ora : DOracle) (nextId : Nat) (fresh : PyVal) : Prop :=
  (∀ args, ora ⟨"clock", "unschedule", args⟩ = .ok .none) ∧
  (∀ args, ora ⟨"clock", "schedule_once", args⟩ = .ok (.int nextId)) ∧
  (∀ args, ora ⟨"uuid", "uuid4", args⟩ = .ok fresh) ∧
  (∀ args, ora ⟨"events", "process_event_queue", args⟩ = .ok .none)

section
variable {ora : DOracle} {nx : Nat} {fr : PyVal} (h : OraOk ora nx fr) (args : List (String × PyVal))
include h
theorem OraOk.unschedule : ora ⟨"clock", "unschedule", args⟩ = .ok .none := h.1 args
theorem OraOk.schedule_once : ora ⟨"clock", "schedule_once", args⟩ = .ok (.int nx) := h.2.1 args
theorem OraOk.uuid4 : ora ⟨"uuid", "uuid4", args⟩ = .ok fr := h.2.2.1 args
theorem OraOk.queue : ora ⟨"events", "process_event_queue", args⟩ = .ok .none := h.2.2.2 args
end

def unsched (hid : Nat) : Eff := ⟨"clock", "unschedule", [("event", .int hid)]⟩

/-- the dict after `pop(name)` -/
def popD (ds : List Entry) (n : Nat) : List Entry :=
  match ds.find? (fun e => e.name == n) with
  | some _ => ds.filter (fun x => x.name != n)
  | none => ds

/-- the `unschedule` call `pop(name)` is followed by -/
def popE (ds : List Entry) (n : Nat) : List Eff :=
  match ds.find? (fun e => e.name == n) with
  | some e => [unsched e.hid]
  | none => []

theorem popD_noname (ds : List Entry) (n : Nat) : ∀ e ∈ popD ds n, e.name ≠ n := by
  unfold popD
  cases hf : ds.find? (fun e => e.name == n) with
  | none => intro e he; simpa using List.find?_eq_none.mp hf e he
  | some x => intro e he; simpa using (List.mem_filter.mp he).2

theorem any_eq_find (ds : List Entry) (n : Nat) :
    ds.any (fun e => e.name == n) = (ds.find? (fun e => e.name == n)).isSome := by
  induction ds with
  | nil => rfl
  | cons e r ih => simp only [List.any_cons, List.find?_cons]; cases h : (e.name == n) <;> simp [ih]

theorem find_popD (ds : List Entry) (n : Nat) : (popD ds n).find? (fun e => e.name == n) = none :=
  List.find?_eq_none.mpr fun e he => by simpa using popD_noname ds n e he

theorem popD_idem (ds : List Entry) (n : Nat) : popD (popD ds n) n = popD ds n := by
  rw [popD, find_popD]

theorem popE_popD (ds : List Entry) (n : Nat) : popE (popD ds n) n = [] := by
  rw [popE, find_popD]

theorem popD_pairwise (ds : List Entry) (n : Nat) (hp : ds.Pairwise (fun a b => a.name ≠ b.name)) :
    (popD ds n).Pairwise (fun a b => a.name ≠ b.name) := by
  unfold popD
  split
  · exact hp.filter _
  · exact hp

theorem popD_of_not_any (ds : List Entry) (n : Nat) (h : ds.any (fun e => e.name == n) = false) :
    popD ds n = ds ∧ popE ds n = [] := by
  rw [any_eq_find] at h
  unfold popD popE
  cases hf : ds.find? (fun e => e.name == n) with
  | none => exact ⟨rfl, rfl⟩
  | some e => simp [hf] at h

/-- the `timeout` the source computes from `ms` (`ms / 1000.0`).  Values are in micro-units: an int `i` is `i * 10^6`, the
literal `1000.0` is `10^9`, and `arithDiv x y` is `x * 10^6 / y` -/
def timeoutOf : PyVal → PyVal
  | .int i => .flt (i * 1000000 * 1000000 / 1000000000)
  | .flt m => .flt (m * 1000000 / 1000000000)
  | _ => .none

theorem timeoutUs_timeoutOf (v : PyVal) (d : Nat) (h : usOf v = some d) : timeoutUs (timeoutOf v) = some d := by
  cases v with
  | int i =>
    have e : i * 1000000 * 1000000 / 1000000000 = i * 1000 := by
      rw [Int.mul_assoc, show (1000000 : Int) * 1000000 = 1000 * 1000000000 from rfl, ← Int.mul_assoc]
      exact Int.mul_ediv_cancel _ (by decide)
    simpa [timeoutOf, timeoutUs, usOf, e] using h
  | flt m =>
    have e : m * 1000000 / 1000000000 = m / 1000 := Int.mul_ediv_mul_of_pos_left m 1000 (by decide)
    simpa [timeoutOf, timeoutUs, usOf, e] using h
  | _ => cases h

theorem arithDiv_ms {v : PyVal} {d : Nat} (h : usOf v = some d) : arithDiv v (.flt 1000000000) = .ok (timeoutOf v) := by
  cases v <;> simp [usOf] at h <;> simp [arithDiv, PyVal.num, timeoutOf]

def schedEff (N : Names) (msv : PyVal) (n cb : Nat) (a : Int) : Eff :=
  ⟨"clock", "schedule_once", [("callback.func", .str "cb:_process_delay_callback"), ("callback.0", N.nm n),
    ("callback.1", .int cb), ("callback.kwargs", .int a), ("timeout", timeoutOf msv)]⟩

def callEff (cb : Nat) (a : Int) : Eff := ⟨"callback", "call", [("func", .int cb), ("kwargs", .int a)]⟩

/-- what `run_now` returns when the callback answered `r`: it swallows exactly `KeyError` -/
def swallow (r : Except Err PyVal) : Except Err (Option PyVal) :=
  match r with
  | .ok _ => .ok none
  | .error x => if x = "KeyError" then .ok none else .error x

def queueEff : Eff := ⟨"events", "process_event_queue", []⟩

/-- all of `remove`, and the second statement of `add`: the block is named as a sub-term of the regenerated code (not copied),
so that `add` reuses the block's lemma; `remove_eq` / `add_eq` fail at `rfl` if the generator moves it -/
def popBlock : Py.DSt := match remove with
  | [s] => s
  | _ => .dictClear

theorem remove_eq : remove = [popBlock] := rfl

theorem add_eq : add = add.take 1 ++ popBlock :: add.drop 2 := rfl

def popL (l : Locals) (ds : List Entry) (n : Nat) : Locals :=
  match ds.find? (fun e => e.name == n) with
  | some e => bindMany l ["delay.0", "delay.1", "delay.2"] [.int e.hid, .int e.cb, .int e.arg]
  | none => l

theorem popL_apply (l : Locals) (ds : List Entry) (n : Nat) {x : String} (h0 : x ≠ "delay.0") (h1 : x ≠ "delay.1")
    (h2 : x ≠ "delay.2") : popL l ds n x = l x := by
  unfold popL
  cases ds.find? (fun e => e.name == n) <;> simp [h0, h1, h2]

/-- the body of the loop of the generated `clear` -/
def clearBody : List Py.DSt := match clear with
  | .forKeys _ b :: _ => b
  | _ => []

theorem clear_eq : clear = [.forKeys "name" clearBody, .s .dictClear] := rfl

/-! One lemma per method, started on the dict `heapOf N ds` of a state whose names are distinct (`hp`), with a clock that
behaves (`ho`).  Each proof is one run of the program by `simp` per case of what the run branches on (name present or not,
what the callback answers).  Beside the interpreter a run uses: what the locals hold (`hl`, `hname`, …), how `heapOf`
answers `in` / `get` / `pop` / `set` (`dictHas_heapOf`, `dictFind_heapOf`, `dictErase_heapOf`, `dictSet_heapOf_new`), the
oracle's answers (`ho.unschedule`, …), `arithDiv_ms` for `ms / 1000.0`, and the lemmas of the methods it calls. -/
section
variable (N : Names) (c : Ctx) {ora : DOracle} {ds : List Entry} (l : Locals)

theorem check_run (n : Nat) (hl : l "delay" = N.nm n) :
    dropL (execDL c ora (heapOf N ds) l check) =
      (heapOf N ds, [], .ok (some (.bool (ds.any (fun e => e.name == n))))) := by
  simp [check, hl, dictHas_heapOf]

variable (hp : ds.Pairwise (fun a b => a.name ≠ b.name)) {nx : Nat} {fr : PyVal} (ho : OraOk ora nx fr)
include hp ho

theorem popBlock_run (n : Nat) (hl : l "name" = N.nm n) :
    execDS c ora (heapOf N ds) l popBlock = (heapOf N (popD ds n), popE ds n, .ok (.next (popL l ds n))) := by
  unfold popD popE popL
  cases hf : ds.find? (fun e => e.name == n) <;>
    simp [popBlock, remove, hl, dictFind_heapOf, hf, dictErase_heapOf N ds n hp, ho.unschedule, unsched]

theorem remove_run (n : Nat) (hl : l "name" = N.nm n) :
    dropL (execDL c ora (heapOf N ds) l remove) = (heapOf N (popD ds n), popE ds n, .ok none) := by
  simp [remove_eq, popBlock_run N c l hp ho n hl]

theorem add_run (msv : PyVal) (d n cb : Nat) (a : Int) (anon : Bool) (hms : l "ms" = msv) (hus : usOf msv = some d)
    (hcb : l "callback" = .int cb) (hkw : l "kwargs" = .int a) (hname : l "name" = if anon then .none else N.nm n)
    (hfr : anon = true → fr = N.nm n) :
    dropL (execDL c ora (heapOf N ds) l add) =
      (heapOf N (popD ds n ++ [⟨n, nx, cb, a⟩]),
       (if anon then [⟨"uuid", "uuid4", []⟩] else []) ++ popE ds n ++ [schedEff N msv n cb a], .ok (some (N.nm n))) := by
  have hset := dictSet_heapOf_new N (popD ds n) n nx cb a (popD_noname ds n)
  rw [add_eq]
  cases anon
  · simp [add, hname, hms, hcb, hkw, N.truthy n, popBlock_run N c l hp ho n (by simpa using hname), popL_apply,
      ho.schedule_once, arithDiv_ms hus, hset, schedEff]
  · simp [add, hname, hms, hcb, hkw, ho.uuid4, hfr rfl, PyVal.truthy,
      popBlock_run N c (fun m => if m = "name" then N.nm n else l m) hp ho n (by simp), popL_apply, ho.schedule_once,
      arithDiv_ms hus, hset, schedEff]

omit hp in
/-- `add` as its callers `add_if_doesnt_exist` and `reset` call it -/
theorem add_call {ds' : List Entry} (hp' : ds'.Pairwise (fun a b => a.name ≠ b.name)) (msv : PyVal) (d n cb : Nat) (a : Int)
    (hus : usOf msv = some d) :
    execDL c ora (heapOf N ds') (argLocals [("ms", msv), ("callback", .int cb), ("name", N.nm n), ("kwargs", .int a)]) add =
      (heapOf N (popD ds' n ++ [⟨n, nx, cb, a⟩]), popE ds' n ++ [schedEff N msv n cb a], .ok (.done (N.nm n))) :=
  dropL_done (add_run N c _ hp' ho msv d n cb a false (by simp) hus (by simp) (by simp) (by simp) (by simp))

theorem add_if_run (msv : PyVal) (d n cb : Nat) (a : Int) (hms : l "ms" = msv) (hus : usOf msv = some d)
    (hcb : l "callback" = .int cb) (hkw : l "kwargs" = .int a) (hname : l "name" = N.nm n) :
    dropL (execDL c ora (heapOf N ds) l add_if_doesnt_exist) =
      if ds.any (fun e => e.name == n) then (heapOf N ds, [], .ok (some (N.nm n)))
      else (heapOf N (popD ds n ++ [⟨n, nx, cb, a⟩]), popE ds n ++ [schedEff N msv n cb a], .ok (some (N.nm n))) := by
  have h1 := dropL_done (check_run N c (ora := ora) (ds := ds) (argLocals [("delay", N.nm n)]) n (by simp))
  cases hany : ds.any (fun e => e.name == n) <;> simp only [hany] at h1 <;>
    simp [add_if_doesnt_exist, hname, hms, hcb, hkw, h1, add_call N c ho hp msv d n cb a hus, PyVal.truthy]

theorem reset_run (msv : PyVal) (d n cb : Nat) (a : Int) (hms : l "ms" = msv) (hus : usOf msv = some d)
    (hcb : l "callback" = .int cb) (hkw : l "kwargs" = .int a) (hname : l "name" = N.nm n) :
    dropL (execDL c ora (heapOf N ds) l reset) =
      (heapOf N (popD ds n ++ [⟨n, nx, cb, a⟩]), popE ds n ++ [schedEff N msv n cb a], .ok (some (N.nm n))) := by
  cases hany : ds.any (fun e => e.name == n)
  · simp [reset, hname, hms, hcb, hkw, dictHas_heapOf, hany, add_call N c ho hp msv d n cb a hus, PyVal.truthy]
  · -- `add` after `remove` pops nothing more
    obtain ⟨l1, h1⟩ := dropL_next (remove_run N c (argLocals [("name", N.nm n)]) hp ho n (by simp))
    have h2 := add_call N c ho (popD_pairwise ds n hp) msv d n cb a hus
    rw [popD_idem, popE_popD] at h2
    simp [reset, hname, hms, hcb, hkw, dictHas_heapOf, hany, h1, h2, PyVal.truthy]

theorem run_now_run (n : Nat) (hname : l "name" = N.nm n) :
    dropL (execDL c ora (heapOf N ds) l run_now) =
      match ds.find? (fun e => e.name == n) with
      | none => (heapOf N ds, [], .ok none)
      | some e => (heapOf N (popD ds n), popE ds n ++ [callEff e.cb e.arg], swallow (ora (callEff e.cb e.arg))) := by
  obtain ⟨l1, h1⟩ := dropL_next (remove_run N c (argLocals [("name", N.nm n)]) hp ho n (by simp))
  cases hf : ds.find? (fun e => e.name == n) with
  | none => simp [run_now, hname, dictHas_heapOf, any_eq_find, hf, PyVal.truthy]
  | some e =>
    simp only [callEff]
    cases hr : ora ⟨"callback", "call", [("func", .int e.cb), ("kwargs", .int e.arg)]⟩ with
    | ok v => simp [run_now, hname, dictHas_heapOf, dictFind_heapOf, any_eq_find, hf, h1, hr, swallow, PyVal.truthy]
    | error x =>
      by_cases hx : x = "KeyError" <;>
        simp [run_now, hname, dictHas_heapOf, dictFind_heapOf, any_eq_find, hf, h1, hr, swallow, PyVal.truthy, hx]

theorem pdc_run (n cb : Nat) (a : Int) (hname : l "name" = N.nm n) (hcb : l "callback" = .int cb)
    (hkw : l "kwargs" = .int a) :
    dropL (execDL c ora (heapOf N ds) l p_process_delay_callback) =
      match ora (callEff cb a) with
      | .ok _ => (heapOf N (popD ds n), [callEff cb a, queueEff], .ok none)
      | .error x => (heapOf N (popD ds n), [callEff cb a], .error x) := by
  unfold popD
  simp only [callEff]
  cases hf : ds.find? (fun e => e.name == n) <;>
  cases hr : ora ⟨"callback", "call", [("func", .int cb), ("kwargs", .int a)]⟩ <;>
  simp [p_process_delay_callback, hname, hcb, hkw, dictHas_heapOf, any_eq_find, hf, hr, queueEff, ho.queue,
    dictErase_heapOf N ds n hp]

theorem clearBody_run {e : Entry} {r : List Entry} (he : ds = e :: r) (hname : l "name" = N.nm e.name) :
    dropL (execDL c ora (heapOf N ds) l clearBody) = (heapOf N r, [unsched e.hid, unsched e.hid], .ok none) := by
  subst he
  obtain ⟨l1, h1⟩ := dropL_next (remove_run N c (argLocals [("name", N.nm e.name)]) hp ho e.name (by simp))
  have hpd : popD (e :: r) e.name = r := by
    simp only [popD, List.find?_cons, beq_self_eq_true, List.filter_cons, bne_self_eq_false, Bool.false_eq_true, if_false]
    refine List.filter_eq_self.mpr fun x hx => ?_
    simpa [bne_iff_ne] using ((List.pairwise_cons.mp hp).1 x hx).symm
  rw [hpd, show popE (e :: r) e.name = [unsched e.hid] by simp [popE]] at h1
  have hfind : dictFind (heapOf N (e :: r)) (N.nm e.name) = some [.int e.hid, .int e.cb, .int e.arg] := by
    rw [dictFind_heapOf]; simp
  simp [clearBody, clear, hname, hfind, ho.unschedule, h1, unsched]

omit hp in
theorem clearLoop_run : ∀ (ds : List Entry) (l : Locals), ds.Pairwise (fun a b => a.name ≠ b.name) →
    dropL (execFor c ora "name" clearBody (ds.map (fun e => N.nm e.name)) (heapOf N ds) l) =
      ([], ds.flatMap (fun e => [unsched e.hid, unsched e.hid]), .ok none)
  | [], l, _ => rfl
  | e :: r, l, hp => by
    obtain ⟨l1, h1⟩ := dropL_next (clearBody_run N c (fun m => if m = "name" then N.nm e.name else l m) hp ho rfl (by simp))
    obtain ⟨l2, h2⟩ := dropL_next (clearLoop_run r l1 (List.pairwise_cons.mp hp).2)
    simp [h1, h2]

theorem clear_run : dropL (execTL c ora clear (heapOf N ds) l) =
    ([], ds.flatMap (fun e => [unsched e.hid, unsched e.hid]), .ok none) := by
  have hk : dictKeys (heapOf N ds) = ds.map (fun e => N.nm e.name) := by
    simp [dictKeys, heapOf, encEntry, Function.comp_def]
  obtain ⟨l1, h1⟩ := dropL_next (clearLoop_run N c ho ds l hp)
  simp [clear_eq, execTL, hk, h1, execDS, dropL]

end

theorem live_any_of_entry {s : St} (i : Inv s) {e : Entry} (he : e ∈ s.delays) :
    s.live.any (fun h => h.hid == e.hid) = true := by
  obtain ⟨h, hh, e1⟩ := i.entry_live e he
  exact List.any_eq_true.mpr ⟨h, hh, by simp [← e1, entryOf]⟩

theorem popD_popName (s : St) (n : Nat) : popD s.delays n = (popName s n).1.delays := by
  unfold popD popName St.entry?
  cases s.delays.find? (fun e => e.name == n) <;> rfl

@[simp] theorem popName_nextId (s : St) (n : Nat) : (popName s n).1.nextId = s.nextId := by
  unfold popName; split <;> rfl

@[simp] theorem popName_now (s : St) (n : Nat) : (popName s n).1.now = s.now := by
  unfold popName; split <;> rfl

theorem ghost_append (a b : List Obs) : ghost (a ++ b) = ghost a ++ ghost b := by
  induction a with
  | nil => rfl
  | cons x r ih => cases x <;> simp [ghost, ih]

theorem callsOf_append (a b : List Obs) : callsOf (a ++ b) = callsOf a ++ callsOf b := by
  induction a with
  | nil => rfl
  | cons x r ih => cases x <;> simp [callsOf, ih]

@[simp] theorem ghost_popName (s : St) (n : Nat) : ghost (popName s n).2 = (popName s n).2 := by
  unfold popName; split <;> rfl

@[simp] theorem callsOf_popName (s : St) (n : Nat) : callsOf (popName s n).2 = [] := by
  unfold popName; split <;> rfl

theorem applyEff_unsched (N : Names) (now : Nat) (g : GSt) (hid : Nat) : applyEff N now g (unsched hid) =
    if g.live.any (fun h => h.hid == hid) then
      { g with live := g.live.filter (fun h => h.hid != hid), obs := g.obs ++ [.cancel hid] }
    else g := by
  simp [applyEff, unsched, Eff.arg, natOf]

theorem fold_popE (N : Names) (s : St) (i : Inv s) (n : Nat) (g : GSt) (hl : g.live = s.live) :
    (popE s.delays n).foldl (applyEff N s.now) g =
      { g with live := (popName s n).1.live, obs := g.obs ++ (popName s n).2 } := by
  unfold popE popName St.entry?
  cases hf : s.delays.find? (fun e => e.name == n) with
  | none => cases g; simp at hl; simp [hl]
  | some e =>
    have ha := live_any_of_entry i (find_key hf).1
    simp [applyEff_unsched, hl, ha]

theorem applyEff_sched (N : Names) (now : Nat) (g : GSt) {msv : PyVal} {d : Nat} (h : usOf msv = some d) (n cb : Nat)
    (a : Int) : applyEff N now g (schedEff N msv n cb a) =
      { g with live := g.live ++ [⟨g.nextId, n, cb, a, now + d⟩], nextId := g.nextId + 1,
               obs := g.obs ++ [.sched ⟨g.nextId, n, cb, a, now + d⟩] } := by
  simp [applyEff, schedEff, Eff.arg, timeoutUs_timeoutOf msv d h, N.inv, natOf, intOf]

theorem applyEff_call (N : Names) (now : Nat) (g : GSt) (cb : Nat) (a : Int) :
    applyEff N now g (callEff cb a) = { g with calls := g.calls ++ [(cb, a)] } := by
  simp [applyEff, callEff, Eff.arg, natOf, intOf]

theorem gen_add (P : Nat → List Cmd) (N : Names) {s : St} (i : Inv s) {msv : PyVal} {d : Nat} (hus : usOf msv = some d)
    (n cb : Nat) (a : Int) (anon : Bool) (v : Except Err PyVal) :
    gen N s (heapOf N (popD s.delays n ++ [⟨n, s.nextId, cb, a⟩]),
      (if anon then [⟨"uuid", "uuid4", []⟩] else []) ++ popE s.delays n ++ [schedEff N msv n cb a], v) =
      hand N (stepCmd P s (.add d n cb a)) := by
  have hp := fold_popE N s i n ⟨s.live, s.nextId, [], [], false⟩ rfl
  have hu : ∀ g, applyEff N s.now g ⟨"uuid", "uuid4", []⟩ = g := fun g => by simp [applyEff]
  cases anon <;>
    simp [gen, hand, stepCmd, doAdd, List.foldl_append, hu, hp, applyEff_sched N _ _ hus, popD_popName, ghost, callsOf,
      ghost_append, callsOf_append]

theorem popName_popName (s : St) (n : Nat) : popName (popName s n).1 n = ((popName s n).1, []) :=
  popName_none (List.find?_eq_none.mpr fun e he => by simpa using popName_noname s n e he)

theorem stepCmd_reset_eq_add (P : Nat → List Cmd) (s : St) (d n cb : Nat) (a : Int) :
    stepCmd P s (.reset d n cb a) = stepCmd P s (.add d n cb a) := by
  simp only [stepCmd]
  split
  · simp [doAdd, popName_popName]
  · rename_i hany
    have : s.delays.find? (fun e => e.name == n) = none := by
      cases hf : s.delays.find? (fun e => e.name == n) with
      | none => rfl
      | some e => exact absurd (by rw [any_eq_find, hf]; rfl) hany
    simp [doAdd, popName_none this]

/-- folding the calls of `clear` (each entry's handle is unscheduled twice: by `clear` itself and by `remove`) -/
theorem fold_clear (N : Names) (now : Nat) : ∀ (es : List Entry) (g : GSt), es.Pairwise (fun a b => a.hid ≠ b.hid) →
    (∀ e ∈ es, g.live.any (fun h => h.hid == e.hid) = true) →
    (es.flatMap (fun e => [unsched e.hid, unsched e.hid])).foldl (applyEff N now) g =
      { g with live := g.live.filter (fun h => !(es.any (fun e => e.hid == h.hid))),
               obs := g.obs ++ es.map (fun e => .cancel e.hid) }
  | [], g, _, _ => by
    cases g; simp
    exact (List.filter_eq_self.mpr (fun _ _ => rfl)).symm
  | e :: r, g, hp, hl => by
    have hp' := List.pairwise_cons.mp hp
    have h1 : g.live.any (fun h => h.hid == e.hid) = true := hl e (by simp)
    have h2 : (g.live.filter (fun h => h.hid != e.hid)).any (fun h => h.hid == e.hid) = false := by
      simp [List.any_filter]
    have hl' : ∀ e' ∈ r, (g.live.filter (fun h => h.hid != e.hid)).any (fun h => h.hid == e'.hid) = true := by
      intro e' he'
      obtain ⟨h, hh, hq⟩ := List.any_eq_true.mp (hl e' (by simp [he']))
      refine List.any_eq_true.mpr ⟨h, List.mem_filter.mpr ⟨hh, ?_⟩, hq⟩
      have : e.hid ≠ e'.hid := hp'.1 e' he'
      have hq' : h.hid = e'.hid := by simpa using hq
      simp [hq']; exact fun c => this c.symm
    simp only [List.flatMap_cons, List.foldl_append, List.foldl_cons, List.foldl_nil]
    rw [applyEff_unsched N now g, if_pos h1, applyEff_unsched, if_neg (by simp [h2]), fold_clear N now r _ hp'.2 hl']
    have hc : ∀ a : Handle, (e.hid == a.hid) = (a.hid == e.hid) := fun a => BEq.comm
    simp [List.filter_filter, List.any_cons, Bool.and_comm, bne, hc]

/-! Folding the calls of a translated method, run on the dict of a state `s` with `Inv`, gives the hand model's step. -/
section
variable (P : Nat → List Cmd) (N : Names) (c : Ctx) (ora : DOracle) (s : St)

theorem check_refines (n : Nat) :
    gen N s (callD c ora (heapOf N s.delays) check [("delay", N.nm n)]) = hand N (stepCmd P s (.check n)) ∧
    (callD c ora (heapOf N s.delays) check [("delay", N.nm n)]).2.2 =
      .ok (.bool (s.delays.any (fun e => e.name == n))) := by
  rw [callD_eq c ora _ _ _ (check_run N c _ n (by simp))]
  simp [gen, hand, stepCmd, ghost, callsOf, Except.map]

variable (i : Inv s) (fr : PyVal) (ho : OraOk ora s.nextId fr)
include i ho

theorem add_refines (msv : PyVal) (d n cb : Nat) (a : Int) (hus : usOf msv = some d) (anon : Bool)
    (hfr : anon = true → fr = N.nm n) :
    gen N s (callD c ora (heapOf N s.delays) add
        (if anon then [("ms", msv), ("callback", .int cb), ("kwargs", .int a)]
         else [("ms", msv), ("callback", .int cb), ("name", N.nm n), ("kwargs", .int a)])) =
      hand N (stepCmd P s (.add d n cb a)) := by
  rw [callD_eq c ora _ _ _ (add_run N c _ i.names ho msv d n cb a anon
    (by cases anon <;> simp) hus (by cases anon <;> simp) (by cases anon <;> simp) (by cases anon <;> simp) hfr)]
  exact gen_add P N i hus n cb a anon _

theorem reset_refines (msv : PyVal) (d n cb : Nat) (a : Int) (hus : usOf msv = some d) :
    gen N s (callD c ora (heapOf N s.delays) reset [("ms", msv), ("callback", .int cb), ("name", N.nm n), ("kwargs", .int a)]) =
      hand N (stepCmd P s (.reset d n cb a)) := by
  rw [stepCmd_reset_eq_add, callD_eq c ora _ _ _ (reset_run N c _ i.names ho msv d n cb a (by simp) hus (by simp) (by simp)
    (by simp))]
  exact gen_add P N i hus n cb a false _

theorem add_if_refines (msv : PyVal) (d n cb : Nat) (a : Int) (hus : usOf msv = some d) :
    gen N s (callD c ora (heapOf N s.delays) add_if_doesnt_exist
        [("ms", msv), ("callback", .int cb), ("name", N.nm n), ("kwargs", .int a)]) =
      hand N (stepCmd P s (.addIf d n cb a)) := by
  have h1 := add_if_run N c (argLocals [("ms", msv), ("callback", .int cb), ("name", N.nm n), ("kwargs", .int a)])
    i.names ho msv d n cb a (by simp) hus (by simp) (by simp) (by simp)
  cases hany : s.delays.any (fun e => e.name == n) <;> simp only [hany, Bool.false_eq_true, if_false, if_true] at h1 <;>
    rw [callD_eq c ora _ _ _ h1]
  · rw [show stepCmd P s (.addIf d n cb a) = stepCmd P s (.add d n cb a) by simp [stepCmd, hany]]
    exact gen_add P N i hus n cb a false _
  · simp [gen, hand, stepCmd, hany, ghost, callsOf]

theorem remove_refines (n : Nat) :
    gen N s (callD c ora (heapOf N s.delays) remove [("name", N.nm n)]) = hand N (stepCmd P s (.remove n)) := by
  rw [callD_eq c ora _ _ _ (remove_run N c _ i.names ho n (by simp))]
  simp [gen, hand, stepCmd, fold_popE N s i n ⟨s.live, s.nextId, [], [], false⟩ rfl, popD_popName]

theorem run_now_refines (n : Nat) :
    gen N s (callD c ora (heapOf N s.delays) run_now [("name", N.nm n)]) = hand N (stepCmd P s (.runNow n)) ∧
    (stepCmd P s (.runNow n)).2.2 =
      pushedRunNow P (gen N s (callD c ora (heapOf N s.delays) run_now [("name", N.nm n)])).calls := by
  have h1 := run_now_run N c (argLocals [("name", N.nm n)]) i.names ho n (by simp)
  have hp := fold_popE N s i n ⟨s.live, s.nextId, [], [], false⟩ rfl
  cases hf : s.delays.find? (fun e => e.name == n) <;> simp only [hf] at h1 <;> rw [callD_eq c ora _ _ _ h1]
  · simp [gen, hand, stepCmd, St.entry?, hf, ghost, callsOf, pushedRunNow]
  · simp [gen, hand, stepCmd, St.entry?, hf, List.foldl_append, hp, applyEff_call, popD_popName, ghost, callsOf,
      ghost_append, callsOf_append, pushedRunNow]

/-- `_process_delay_callback` (what the loop calls when the handle is due): the entry under the name is dropped, the stored
callback is called with the stored kwargs, no clock call is made -/
theorem pdc_refines (h : Handle) (hl : h ∈ s.live) :
    let r := gen N s (callD c ora (heapOf N s.delays) p_process_delay_callback
      [("name", N.nm h.name), ("callback", .int h.cb), ("kwargs", .int h.arg)])
    r.dict = heapOf N (s.delays.filter (fun e => e.name != h.name)) ∧ r.live = s.live ∧ r.nextId = s.nextId ∧
    r.obs = [] ∧ r.calls = [(h.cb, h.arg)] ∧ r.unknown = false := by
  have h1 := pdc_run N c (argLocals [("name", N.nm h.name), ("callback", .int h.cb), ("kwargs", .int h.arg)])
    i.names ho h.name h.cb h.arg (by simp) (by simp) (by simp)
  have hf : s.delays.find? (fun e => e.name == h.name) = some (entryOf h) :=
    find_of_mem Entry.name i.names (i.live_entry h hl)
  have hpd : popD s.delays h.name = s.delays.filter (fun e => e.name != h.name) := by
    rw [popD, hf]
  rw [hpd] at h1
  have hq : ∀ g, applyEff N s.now g queueEff = g := fun g => by simp [applyEff, queueEff]
  cases hr : ora (callEff h.cb h.arg) <;> simp only [hr] at h1 <;> rw [callD_eq c ora _ _ _ h1] <;>
    simp [gen, applyEff_call, hq]

theorem clear_refines : gen N s (callT c ora (heapOf N s.delays) clear []) = hand N (stepCmd P s .clear) := by
  have hc : callT c ora (heapOf N s.delays) clear [] =
      ([], s.delays.flatMap (fun e => [unsched e.hid, unsched e.hid]), .ok .none) := by
    rw [callT, resOf_eq, clear_run N c (argLocals []) i.names ho]; rfl
  rw [hc]
  have hf := fold_clear N s.now s.delays ⟨s.live, s.nextId, [], [], false⟩ i.hids
    (fun e he => live_any_of_entry i he)
  have hg : ghost (s.delays.map (fun e => Obs.cancel e.hid)) = s.delays.map (fun e => Obs.cancel e.hid) := by
    induction s.delays with
    | nil => rfl
    | cons x r ih => simp [ghost, ih]
  have hcl : callsOf (s.delays.map (fun e => Obs.cancel e.hid)) = [] := by
    induction s.delays with
    | nil => rfl
    | cons x r ih => simp [callsOf, ih]
  simp [gen, hand, stepCmd, doClear, hf, hg, hcl, heapOf]

end

end MpfVerif.Delay
