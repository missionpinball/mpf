import MpfVerif.Model.Bcp
/-! Helper lemmas for C19 (percent-encoding, decimal text, splitting). -/
namespace MpfVerif.Bcp

theorem unhex_of {b n : Nat} (h : b = 48 + n ∧ n < 10 ∨ (b = 55 + n ∨ b = 87 + n) ∧ 10 ≤ n ∧ n < 16) :
    unhex b = some n := by
  unfold unhex
  rcases h with ⟨rfl, h⟩ | ⟨rfl | rfl, h⟩
  · rw [if_pos (by omega)]; simp
  · rw [if_neg (by omega), if_pos (by omega)]; simp
  · rw [if_neg (by omega), if_neg (by omega), if_pos (by omega)]; simp

theorem unhex_hexDigit (n : Nat) (h : n < 16) : unhex (hexDigit n) = some n :=
  unhex_of (by unfold hexDigit; split <;> omega)

theorem safe_ne_percent (b : Nat) (h : isSafe b = true) : b ≠ 37 := by
  intro hb; subst hb; simp [isSafe] at h

theorem hexDigit_safe (n : Nat) (h : n < 16) : isSafe (hexDigit n) = true := by
  unfold hexDigit isSafe
  split <;> simp <;> omega

/-- the bytes `quote` never emits -/
abbrev Escaped (c : Nat) : Prop := isSafe c = false ∧ c ≠ 37

theorem not_mem_quote (bs : Bytes) (hb : ∀ b ∈ bs, b < 256) {c : Nat} (hc : Escaped c) : c ∉ quote bs := by
  have ne_safe : ∀ x, isSafe x = true → c ≠ x := fun x hx h => by simp [← h, hc.1] at hx
  induction bs with
  | nil => simp [quote]
  | cons b bs ih =>
    rw [List.forall_mem_cons] at hb
    unfold quote
    split
    · simp [ih hb.2, ne_safe b ‹_›]
    · simp [ih hb.2, hc.2, ne_safe _ (hexDigit_safe (b / 16) (by omega)), ne_safe _ (hexDigit_safe (b % 16) (by omega))]

theorem unquote_quote (bs : Bytes) (hb : ∀ b ∈ bs, b < 256) : unquote (quote bs) = bs := by
  unfold unquote
  induction bs with
  | nil => rfl
  | cons b bs ih =>
    rw [List.forall_mem_cons] at hb
    unfold quote
    split
    · simp [unq, safe_ne_percent b ‹_›, ih hb.2]
    · simp [unq, unhex_hexDigit (b / 16) (by omega), unhex_hexDigit (b % 16) (by omega), ih hb.2]
      omega

theorem plusToSpace_id (l : Bytes) (h : 43 ∉ l) : plusToSpace l = l := by
  unfold plusToSpace
  induction l with
  | nil => rfl
  | cons b r ih =>
    rw [List.mem_cons, not_or] at h
    rw [List.map_cons, ih h.2, if_neg (Ne.symm h.1)]

theorem unq_idle_append (a b : Bytes) (h : 37 ∉ a) : unq .idle (a ++ b) = a ++ unq .idle b := by
  induction a with
  | nil => rfl
  | cons x xs ih =>
    rw [List.mem_cons, not_or] at h
    simp [unq, Ne.symm h.1, ih h.2]

theorem unquote_plus_quote (s : Bytes) (h : ∀ b ∈ s, b < 256) : unquote (plusToSpace (quote s)) = s := by
  rw [plusToSpace_id _ (not_mem_quote s h (by decide)), unquote_quote s h]

theorem natDigitsAux_acc (fuel n : Nat) (acc : Bytes) : natDigitsAux fuel n acc = natDigitsAux fuel n [] ++ acc := by
  induction fuel generalizing n acc with
  | zero => rfl
  | succ f ih =>
    unfold natDigitsAux
    split
    · rfl
    · rw [ih, ih _ [_], List.append_assoc]; rfl

theorem digitsVal_concat (a : Nat) (l : Bytes) (r : Nat) (hr : r < 10) :
    digitsVal a (l ++ [48 + r]) = (digitsVal a l).map (· * 10 + r) := by
  induction l generalizing a with
  | nil => simp [digitsVal, isDigit]; omega
  | cons x xs ih => simp only [List.cons_append, digitsVal]; split <;> simp [ih]

/-- the last digit is `n % 10`, the digits before it are those of `n / 10` -/
theorem digitsVal_natDigitsAux (fuel n : Nat) (hf : n < fuel) : digitsVal 0 (natDigitsAux fuel n []) = some n := by
  induction fuel generalizing n with
  | zero => omega
  | succ f ih =>
    unfold natDigitsAux
    split
    · simpa [digitsVal] using digitsVal_concat 0 [] n ‹_›
    · rw [natDigitsAux_acc, digitsVal_concat _ _ _ (Nat.mod_lt _ (by decide)), ih _ (by omega)]
      simp only [Option.map_some, Option.some.injEq]
      omega

theorem digitsVal_natText (n : Nat) : digitsVal 0 (natText n) = some n :=
  digitsVal_natDigitsAux (n + 1) n (by omega)

theorem digitsVal_some_digits (a : Nat) (t : Bytes) (n : Nat) (h : digitsVal a t = some n) : ∀ b ∈ t, isDigit b = true := by
  induction t generalizing a with
  | nil => simp
  | cons x xs ih =>
    unfold digitsVal at h
    split at h
    · exact List.forall_mem_cons.mpr ⟨‹_›, ih _ h⟩
    · cases h

theorem natText_digits (n : Nat) : ∀ b ∈ natText n, isDigit b = true :=
  digitsVal_some_digits 0 _ n (digitsVal_natText n)

theorem natText_ne_nil (n : Nat) : natText n ≠ [] := by
  unfold natText natDigitsAux
  split
  · simp
  · rw [natDigitsAux_acc]; simp

theorem intText_chars (i : Int) : ∀ b ∈ intText i, isDigit b = true ∨ b = 45 := by
  cases i with
  | ofNat n => exact fun b hb => .inl (natText_digits n b hb)
  | negSucc n => exact List.forall_mem_cons.mpr ⟨.inr rfl, fun b hb => .inl (natText_digits _ b hb)⟩

theorem intText_lt (i : Int) : ∀ b ∈ intText i, b < 256 := by
  intro b hb
  rcases intText_chars i b hb with h | h
  · simp [isDigit] at h; omega
  · omega

theorem dropSpaces_id (l : Bytes) (h : ∀ b ∈ l, isSpace b = false) : dropSpaces l = l := by
  cases l with
  | nil => rfl
  | cons b r => simp [dropSpaces, h b List.mem_cons_self]

theorem stripSpaces_id (l : Bytes) (h : ∀ b ∈ l, isSpace b = false) : stripSpaces l = l := by
  unfold stripSpaces
  rw [dropSpaces_id l h, dropSpaces_id l.reverse (fun b hb => h b (List.mem_reverse.mp hb))]
  simp

theorem digit_not_space (b : Nat) (h : isDigit b = true) : isSpace b = false := by
  simp [isDigit, isSpace] at *; omega

theorem parseInt_intText (i : Int) : parseInt (intText i) = some i := by
  have hns : ∀ b ∈ intText i, isSpace b = false := by
    intro b hb
    rcases intText_chars i b hb with h | rfl
    · exact digit_not_space b h
    · rfl
  unfold parseInt
  rw [stripSpaces_id _ hns]
  cases i with
  | ofNat n =>
    obtain ⟨c, r, hx⟩ := List.exists_cons_of_ne_nil (natText_ne_nil n)
    have hc : 48 ≤ c := by have := natText_digits n c (hx ▸ List.mem_cons_self); simp [isDigit] at this; omega
    simp only [intText, hx]
    rw [if_neg (by omega), if_neg (by omega), ← hx, digitsVal_natText]
    rfl
  | negSucc n =>
    simp only [intText, if_true, List.isEmpty_iff, natText_ne_nil, if_false, digitsVal_natText]
    rfl

def Val.WF : Val → Prop
  | .str s => ∀ b ∈ s, b < 256
  | .flt t => ∀ b ∈ t, b < 256
  | _ => True

theorem not_prefix_of_missing (p l : Bytes) (c : Nat) (hc : c ∈ p) (hl : c ∉ l) : p.isPrefixOf l = false := by
  cases h : p.isPrefixOf l with
  | false => rfl
  | true => exact absurd ((List.isPrefixOf_iff_prefix.mp h).subset hc) hl

theorem toLower_58 (l : Bytes) (h : 58 ∈ toLower l) : 58 ∈ l := by
  unfold toLower at h
  obtain ⟨c, hc, he⟩ := List.mem_map.mp h
  split at he
  · omega
  · exact he ▸ hc

/-- a quoted string has no `:`, so none of the decoder's type tests fires -/
theorem decodeValue_str (s : Bytes) (h : ∀ b ∈ s, b < 256) : decodeValue (quote s) = some (.str s) := by
  have h58 : 58 ∉ quote s := not_mem_quote s h (by decide)
  have hl : 58 ∉ toLower (quote s) := fun hm => h58 (toLower_58 _ hm)
  have h1 : toLower (quote s) ≠ sBoolTrue := (ne_of_mem_of_not_mem' (by decide) hl).symm
  have h2 : toLower (quote s) ≠ sBoolFalse := (ne_of_mem_of_not_mem' (by decide) hl).symm
  have h3 : quote s ≠ sNone := (ne_of_mem_of_not_mem' (by decide) h58).symm
  simp [decodeValue, unquote_plus_quote s h, not_prefix_of_missing _ _ 58 (by decide : 58 ∈ pInt) h58,
    not_prefix_of_missing _ _ 58 (by decide : 58 ∈ pFloat) h58, h1, h2, h3]

theorem prefix_self_append (p l : Bytes) : p.isPrefixOf (p ++ l) = true :=
  List.isPrefixOf_iff_prefix.mpr (List.prefix_append p l)

theorem unquote_prefixed (p s : Bytes) (h37 : 37 ∉ p) (h43 : 43 ∉ p) (h : ∀ b ∈ s, b < 256) :
    unquote (plusToSpace (p ++ quote s)) = p ++ s := by
  rw [plusToSpace_id _ (by simp [h43, not_mem_quote s h (c := 43) (by decide)]), unquote, unq_idle_append _ _ h37, ← unquote,
    unquote_quote s h]

theorem decodeValue_encodeValue (v : Val) (h : v.WF) : decodeValue (encodeValue v) = some v := by
  cases v with
  | str s => exact decodeValue_str s h
  | int i =>
    unfold decodeValue encodeValue
    rw [if_pos (prefix_self_append _ _), unquote_prefixed pInt _ (by decide) (by decide) (intText_lt i)]
    simp [pInt, parseInt_intText]
  | flt t =>
    unfold decodeValue encodeValue
    rw [if_neg (by simp [pInt, pFloat, List.isPrefixOf]), if_pos (prefix_self_append _ _),
      unquote_prefixed pFloat _ (by decide) (by decide) h]
    simp [pFloat]
  | bool b => cases b <;> decide
  | none => decide

/-- the type prefixes consist of unreserved bytes and `:` -/
theorem not_mem_encodeValue (v : Val) (h : v.WF) {c : Nat} (hc : Escaped c) (h58 : c ≠ 58) : c ∉ encodeValue v := by
  have lit : ∀ l : Bytes, (∀ x ∈ l, isSafe x = true ∨ x = 58) → c ∉ l :=
    fun l hl hm => (hl c hm).elim (by simp [hc.1]) h58
  cases v with
  | str s => exact not_mem_quote s h hc
  | int i => simp [encodeValue, lit pInt (by decide), not_mem_quote _ (intText_lt i) hc]
  | flt t => simp [encodeValue, lit pFloat (by decide), not_mem_quote t h hc]
  | bool b => cases b <;> exact lit _ (by decide)
  | none => exact lit _ (by decide)

theorem splitFirst_append (sep : Nat) (a b : Bytes) (h : sep ∉ a) :
    splitFirst sep (a ++ sep :: b) = (a, some b) := by
  induction a with
  | nil => simp [splitFirst]
  | cons x xs ih =>
    rw [List.mem_cons, not_or] at h
    simp [splitFirst, Ne.symm h.1, ih h.2]

theorem splitFirst_none (sep : Nat) (a : Bytes) (h : sep ∉ a) : splitFirst sep a = (a, none) := by
  induction a with
  | nil => simp [splitFirst]
  | cons x xs ih =>
    rw [List.mem_cons, not_or] at h
    simp [splitFirst, Ne.symm h.1, ih h.2]

theorem splitAll_ne_nil (sep : Nat) (l : Bytes) : splitAll sep l ≠ [] := by
  cases l with
  | nil => simp [splitAll]
  | cons b r =>
    unfold splitAll
    split
    · simp
    · split <;> simp

theorem splitAll_single (sep : Nat) (a : Bytes) (h : sep ∉ a) : splitAll sep a = [a] := by
  induction a with
  | nil => simp [splitAll]
  | cons x xs ih =>
    rw [List.mem_cons, not_or] at h
    simp [splitAll, Ne.symm h.1, ih h.2]

theorem splitAll_append_sep (sep : Nat) (a b : Bytes) :
    splitAll sep (a ++ sep :: b) = splitAll sep a ++ splitAll sep b := by
  induction a with
  | nil => simp [splitAll]
  | cons x xs ih =>
    obtain ⟨h, t, ht⟩ := List.exists_cons_of_ne_nil (splitAll_ne_nil sep xs)
    simp only [List.cons_append, splitAll, ih, ht]
    split <;> rfl

theorem splitAll_joinAmp (ps : List Bytes) (hne : ps ≠ []) (h : ∀ p ∈ ps, 38 ∉ p) :
    splitAll 38 (joinAmp ps) = ps := by
  induction ps using joinAmp.induct with
  | case1 => exact absurd rfl hne
  | case2 x => exact splitAll_single 38 x (h x List.mem_cons_self)
  | case3 x y r ih =>
    rw [List.forall_mem_cons] at h
    rw [joinAmp, splitAll_append_sep, splitAll_single 38 x h.1, ih (by simp) h.2]
    rfl

theorem joinAmp_cons (x : Bytes) (r : List Bytes) : ∃ t, joinAmp (x :: r) = x ++ t := by
  cases r with
  | nil => exact ⟨[], by simp [joinAmp]⟩
  | cons y r' => exact ⟨38 :: joinAmp (y :: r'), by simp [joinAmp]⟩

theorem mem_joinAmp {c : Nat} {ps : List Bytes} (h : c ∈ joinAmp ps) : c = 38 ∨ ∃ p ∈ ps, c ∈ p := by
  induction ps using joinAmp.induct with
  | case1 => simp [joinAmp] at h
  | case2 x => exact .inr ⟨x, List.mem_cons_self, h⟩
  | case3 x y r ih =>
    simp only [joinAmp, List.mem_append, List.mem_cons] at h
    rcases h with h | h | h
    · exact .inr ⟨x, List.mem_cons_self, h⟩
    · exact .inl h
    · exact (ih h).imp_right fun ⟨p, hp, hc⟩ => ⟨p, List.mem_cons_of_mem _ hp, hc⟩

/-- what the source accumulates: every pair followed by `&` -/
theorem flatten_amp (ps : List Bytes) :
    (ps.map (· ++ [38])).flatten = if ps.isEmpty then [] else joinAmp ps ++ [38] := by
  induction ps using joinAmp.induct with
  | case1 => rfl
  | case2 x => simp [joinAmp]
  | case3 x y r ih =>
    simp only [List.map_cons, List.flatten_cons, List.isEmpty_cons, Bool.false_eq_true, if_false] at ih ⊢
    rw [ih]; simp [joinAmp]

theorem dropLast_flatten_amp (ps : List Bytes) : (ps.map (· ++ [38])).flatten.dropLast = joinAmp ps := by
  rw [flatten_amp]
  cases ps with
  | nil => rfl
  | cons x r => simp

def KwWF (kw : List (Bytes × Val)) : Prop :=
  (∀ kv ∈ kw, (∀ b ∈ kv.1, b < 256) ∧ kv.2.WF) ∧ (kw.map (·.1)).Nodup

theorem not_mem_encodePair (kv : Bytes × Val) (hk : ∀ b ∈ kv.1, b < 256) (hv : kv.2.WF) {c : Nat} (hc : Escaped c)
    (h58 : c ≠ 58) (h61 : c ≠ 61) : c ∉ encodePair kv := by
  simp [encodePair, not_mem_quote _ hk hc, not_mem_encodeValue _ hv hc h58, h61]

theorem encodePairs_no_amp (kw : List (Bytes × Val)) (hwf : KwWF kw) : ∀ p ∈ kw.map encodePair, 38 ∉ p := by
  intro p hp
  obtain ⟨kv, hkv, rfl⟩ := List.mem_map.mp hp
  exact not_mem_encodePair kv (hwf.1 kv hkv).1 (hwf.1 kv hkv).2 (by decide) (by decide) (by decide)

theorem not_mem_encodeFlat (cmd : Bytes) (kw : List (Bytes × Val)) (hwf : KwWF kw) {c : Nat} (hc : Escaped c)
    (h58 : c ≠ 58) (h61 : c ≠ 61) (h38 : c ≠ 38) (h63 : c ≠ 63) (hcmd : c ∉ cmd) : c ∉ encodeFlat cmd kw := by
  unfold encodeFlat
  split
  · exact hcmd
  · simp only [List.mem_append, List.mem_cons, not_or]
    refine ⟨hcmd, h63, fun hm => ?_⟩
    rcases mem_joinAmp hm with h | ⟨p, hp, h⟩
    · exact h38 h
    · obtain ⟨kv, hkv, rfl⟩ := List.mem_map.mp hp
      exact not_mem_encodePair kv (hwf.1 kv hkv).1 (hwf.1 kv hkv).2 hc h58 h61 h

theorem joinAmp_pairs_isEmpty (kw : List (Bytes × Val)) : (joinAmp (kw.map encodePair)).isEmpty = kw.isEmpty := by
  cases kw with
  | nil => rfl
  | cons a r =>
    obtain ⟨t, ht⟩ := joinAmp_cons (encodePair a) (r.map encodePair)
    rw [List.map_cons, ht]
    simp [encodePair]

theorem splitFirst_encodePair (k : Bytes) (v : Val) (t : Bytes) (hk : ∀ b ∈ k, b < 256) :
    splitFirst 61 (encodePair (k, v) ++ t) = (quote k, some (encodeValue v ++ t)) := by
  simp only [encodePair, List.append_assoc, List.cons_append]
  exact splitFirst_append 61 _ _ (not_mem_quote k hk (by decide))

theorem key_of_prefix {s k t t' : Bytes} {v : Val} (hk : ∀ b ∈ k, b < 256) (hs : 61 ∉ s)
    (h : encodePair (k, v) ++ t = s ++ 61 :: t') : k = unquote s := by
  have e := splitFirst_encodePair k v t hk
  rw [h, splitFirst_append 61 s t' hs] at e
  rw [(Prod.mk.inj e).1, unquote_quote k hk]

/-- the decoder's slice test `query[0:5] == 'json='` is a prefix test -/
theorem take5_json (q : Bytes) : q.take 5 = [106, 115, 111, 110, 61] ↔ sJsonEq.isPrefixOf q = true := by
  rw [List.isPrefixOf_iff_prefix, List.prefix_iff_eq_take, eq_comm]
  rfl

theorem decode_encodeJson (cmd text : Bytes) (hc : 63 ∉ cmd) : decode (encodeJson cmd text) = .json cmd text := by
  unfold encodeJson decode
  simp only [splitFirst_append 63 cmd _ hc, Option.getD_some, prefix_self_append, if_true]
  simp [sJsonEq]

theorem hasKey_false_iff (k : Bytes) (acc : List (Bytes × Val)) : hasKey k acc = false ↔ ∀ kv ∈ acc, kv.1 ≠ k := by
  induction acc with
  | nil => simp [hasKey]
  | cons a r ih => simp [hasKey, ih, eq_comm (a := k)]

theorem decodePairs_encode (kw acc : List (Bytes × Val)) (hwf : KwWF kw)
    (hacc : ∀ kv ∈ kw, hasKey kv.1 acc = false) :
    decodePairs (kw.map encodePair) acc = some (acc.reverse ++ kw) := by
  induction kw generalizing acc with
  | nil => simp [decodePairs]
  | cons kv r ih =>
    obtain ⟨k, v⟩ := kv
    obtain ⟨hall, hnd⟩ := hwf
    rw [List.forall_mem_cons] at hall hacc
    rw [List.map_cons, List.nodup_cons] at hnd
    have hne : (encodePair (k, v)).isEmpty = false := by simp [encodePair]
    have hs := splitFirst_encodePair k v [] hall.1.1
    rw [List.append_nil, List.append_nil] at hs
    simp only [List.map_cons, decodePairs, hne, hs, unquote_plus_quote k hall.1.1, hacc.1, Option.getD_some,
      decodeValue_encodeValue v hall.1.2]
    have := ih ((k, v) :: acc) ⟨hall.2, hnd.2⟩ (by
      intro kv hkv
      rw [hasKey_false_iff, List.forall_mem_cons]
      exact ⟨fun he => hnd.1 (List.mem_map.mpr ⟨kv, hkv, he.symm⟩), (hasKey_false_iff _ _).mp (hacc.2 kv hkv)⟩)
    simpa using this

end MpfVerif.Bcp
