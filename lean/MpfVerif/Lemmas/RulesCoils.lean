import MpfVerif.Lemmas.Rules
/-!
# Lemmas for C10: every coil energised by a software command is owed to a flag of an enabled flipper
-/
namespace MpfVerif.Rules

/-- coil `x` is owed to flipper state `d` (wiring `f`): the flipper is enabled and either `x` is its main coil and it
is software-flipped or repulse-enabled, or `x` is its hold coil and it is software-flipped -/
def owedD (f : FCfg) (d : DSt) (x : Nat) : Prop :=
  d.enabled = true ∧ ((x = f.main ∧ (d.swFlipped = true ∨ d.repOn = true)) ∨ (f.hold = some x ∧ d.swFlipped = true))

def OwedBy (c : Cfg) (s : St) (i x : Nat) : Prop :=
  i < c.n ∧ ∃ f, (c.dev i).kind = .flipper f ∧ owedD f (s.devs i) x

/-- the coil invariant: every coil in `on` is owed to an enabled flipper -/
def InvOn (c : Cfg) (s : St) : Prop := ∀ x ∈ s.on, ∃ i, OwedBy c s i x

theorem owedD.mono {f : FCfg} {d d' : DSt} {x : Nat} (he : d'.enabled = d.enabled)
    (hs : d.swFlipped = true → d'.swFlipped = true) (hr : d.repOn = true → d'.repOn = true) :
    owedD f d x → owedD f d' x :=
  fun ⟨h1, h2⟩ => ⟨he.trans h1, h2.imp (And.imp_right (Or.imp hs hr)) (And.imp_right hs)⟩

theorem not_owedD {f : FCfg} {d : DSt} {x : Nat} (hs : d.swFlipped = true → x ≠ f.main ∧ f.hold ≠ some x)
    (hr : d.repOn = true → x ≠ f.main) : ¬ owedD f d x := by
  rintro ⟨_, ⟨hm, hf | hp⟩ | ⟨hh, hf⟩⟩
  · exact (hs hf).1 hm
  · exact hr hp hm
  · exact (hs hf).2 hh

theorem OwedBy.owedD {c : Cfg} {s : St} {i x : Nat} {f : FCfg} (hk : (c.dev i).kind = .flipper f) :
    OwedBy c s i x → owedD f (s.devs i) x := by
  rintro ⟨_, f', hk', ho⟩
  cases hk.symm.trans hk'
  exact ho

theorem invOn_local {c : Cfg} {s s' : St} {i : Nat} (h : InvOn c s) (hoth : ∀ j, j ≠ i → s'.devs j = s.devs j)
    (hon : ∀ y ∈ s'.on, y ∈ s.on ∧ (OwedBy c s i y → OwedBy c s' i y)) : InvOn c s' := by
  intro y hy
  obtain ⟨j, hj⟩ := h y (hon y hy).1
  by_cases hji : j = i
  · exact ⟨i, (hon y hy).2 (hji ▸ hj)⟩
  · exact ⟨j, by unfold OwedBy at *; rw [hoth j hji]; exact hj⟩

theorem invOn_mono {c : Cfg} {s s' : St} {i : Nat} (h : InvOn c s) (hon : ∀ y ∈ s'.on, y ∈ s.on)
    (hoth : ∀ j, j ≠ i → s'.devs j = s.devs j) (he : (s'.devs i).enabled = (s.devs i).enabled)
    (hs : (s.devs i).swFlipped = true → (s'.devs i).swFlipped = true)
    (hr : (s.devs i).repOn = true → (s'.devs i).repOn = true) : InvOn c s' :=
  invOn_local h hoth fun y hy => ⟨hon y hy, fun ⟨hi, f, hk, ho⟩ => ⟨hi, f, hk, ho.mono he hs hr⟩⟩

@[simp] theorem on_coilOn (s : St) (x y : Nat) : y ∈ (coilOn s x).on ↔ y = x ∨ y ∈ s.on := by
  unfold coilOn
  dsimp only
  split
  · rename_i hx
    exact ⟨Or.inr, fun h => h.elim (fun e => e ▸ hx) id⟩
  · exact List.mem_cons
@[simp] theorem on_coilOff (s : St) (x y : Nat) : y ∈ (coilOff s x).on ↔ y ∈ s.on ∧ y ≠ x := by
  simp [coilOff, List.mem_filter]
@[simp] theorem on_coilPulse (s : St) (x : Nat) : (coilPulse s x).on = s.on := rfl
@[simp] theorem on_upd (s : St) (i : Nat) (d : DSt) : (upd s i d).on = s.on := rfl
@[simp] theorem devs_coilOn (s : St) (x : Nat) : (coilOn s x).devs = s.devs := rfl
@[simp] theorem devs_coilOff (s : St) (x : Nat) : (coilOff s x).devs = s.devs := rfl
@[simp] theorem devs_coilPulse (s : St) (x : Nat) : (coilPulse s x).devs = s.devs := rfl

theorem mem_on_swRelease {s : St} {i : Nat} {f : FCfg} {y : Nat} :
    y ∈ (swRelease s i f).on ↔ y ∈ s.on ∧ y ≠ f.main ∧ f.hold ≠ some y := by
  unfold swRelease
  cases f.hold with
  | none => simp
  | some x => simp [and_assoc, eq_comm]

theorem invOn_quiet {c : Cfg} {s s' : St} {i : Nat} (hq : Quiet i s s') (h : InvOn c s) : InvOn c s' :=
  invOn_mono h (fun _ hy => hq.on ▸ hy) hq.other hq.en (fun e => hq.sf.trans e) (fun e => hq.rep.trans e)

theorem invOn_upd {c : Cfg} (s : St) (i : Nat) (d : DSt) (h : InvOn c s) (he : d.enabled = (s.devs i).enabled)
    (hs : (s.devs i).swFlipped = true → d.swFlipped = true) (hr : (s.devs i).repOn = true → d.repOn = true) :
    InvOn c (upd s i d) :=
  invOn_mono h (fun _ hy => hy) (fun _ hj => devs_upd_other s i d hj) (by rw [devs_upd_same, he])
    (by rw [devs_upd_same]; exact hs) (by rw [devs_upd_same]; exact hr)

theorem invOn_coilOff {c : Cfg} (s : St) (x : Nat) (h : InvOn c s) : InvOn c (coilOff s x) :=
  fun y hy => h y ((on_coilOff s x y).mp hy).1

theorem invOn_coilOn {c : Cfg} {s : St} {i x : Nat} (ho : OwedBy c s i x) (h : InvOn c s) : InvOn c (coilOn s x) := by
  intro y hy
  rcases (on_coilOn s x y).mp hy with e | hy0
  · exact ⟨i, e ▸ ho⟩
  · exact h y hy0

theorem invOn_swRelease {c : Cfg} (s : St) (i : Nat) (f : FCfg) (hk : (c.dev i).kind = .flipper f)
    (h : InvOn c s) : InvOn c (swRelease s i f) := by
  refine invOn_local h (local_swRelease s i f).other fun y hy => ?_
  obtain ⟨hy0, hm, hh⟩ := mem_on_swRelease.mp hy
  exact ⟨hy0, fun ho => absurd (ho.owedD hk) (not_owedD (fun _ => ⟨hm, hh⟩) (fun _ => hm))⟩

theorem invOn_swFlip {c : Cfg} (s : St) (i : Nat) (f : FCfg) (hi : i < c.n) (hk : (c.dev i).kind = .flipper f)
    (h : InvOn c s) : InvOn c (swFlip s i f) := by
  unfold swFlip
  cases hen : (s.devs i).enabled
  · exact h
  · have h1 := invOn_upd s i { s.devs i with swFlipped := true } h rfl (fun _ => rfl) id
    cases hh : f.hold with
    | none =>
      refine invOn_coilOn ⟨hi, f, hk, ?_⟩ h1
      rw [devs_upd_same]
      exact ⟨hen, Or.inl ⟨rfl, Or.inl rfl⟩⟩
    | some x =>
      refine invOn_coilOn ⟨hi, f, hk, ?_⟩ (s := coilPulse _ f.main) (fun y hy => h1 y hy)
      rw [devs_coilPulse, devs_upd_same]
      exact ⟨hen, Or.inr ⟨hh, rfl⟩⟩

theorem invOn_fswDev {c : Cfg} (s : St) (i w : Nat) (st : Bool) (hi : i < c.n) (h : InvOn c s) :
    InvOn c (fswDev c s i w st) := by
  refine fswDev_cases c s i w st (fun _ hq => invOn_quiet hq h) (fun f d hk he _ hs => ?_) (fun f d hk he _ hs hen hr => ?_)
  · -- the main coil goes off, `repOn` may be cleared: what else was owed to the flipper rests on `swFlipped`
    refine invOn_local h (fun _ hj => devs_upd_other s i d hj) fun y hy => ?_
    obtain ⟨hy0, hm⟩ := (on_coilOff _ _ y).mp hy
    refine ⟨hy0, fun ho => ⟨hi, f, hk, ?_⟩⟩
    rw [devs_coilOff, devs_upd_same]
    obtain ⟨h1, ⟨e, _⟩ | ⟨hh, hf⟩⟩ := ho.owedD hk
    · exact absurd e hm
    · exact ⟨he.trans h1, Or.inr ⟨hh, hs.trans hf⟩⟩
  · exact invOn_coilOn ⟨hi, f, hk, by rw [devs_upd_same]; exact ⟨hen, Or.inl ⟨rfl, Or.inr hr⟩⟩⟩
      (invOn_upd s i d h he (fun e => hs.trans e) (fun _ => hr))

theorem invOn_enableDev {c : Cfg} (s : St) (i : Nat) (h : InvOn c s) : InvOn c (enableDev c s i) :=
  enableDev_cases c s i (fun _ => h)
    (fun hdis _ d _ => invOn_local h (fun _ hj => devs_upd_other _ i d hj)
      fun _ hy => ⟨hy, fun ⟨_, _, _, ho⟩ => Bool.noConfusion (hdis.symm.trans ho.1)⟩)
    (fun _ _ y hy => h y hy)

theorem mem_on_disableDev (c : Cfg) (s : St) (i : Nat) {y : Nat} :
    y ∈ (disableDev c s i).on → y ∈ s.on ∧ ¬ OwedBy c s i y := by
  unfold disableDev
  dsimp only
  cases hk : (c.dev i).kind with
  | autofire a =>
    refine fun hy => ⟨?_, fun ⟨_, _, hk', _⟩ => nomatch hk.symm.trans hk'⟩
    revert hy
    cases (s.devs i).enabled <;> exact id
  | flipper f =>
    suffices h : _ → y ∈ s.on ∧ ¬ owedD f (s.devs i) y from fun hy => ⟨(h hy).1, fun ho => (h hy).2 (ho.owedD hk)⟩
    cases he : (s.devs i).enabled
    · exact fun hy => ⟨hy, fun ho => Bool.noConfusion (he.symm.trans ho.1)⟩
    · -- `stop()` has switched the main coil off if `repOn`, `sw_release` the main and the hold coil if `swFlipped`
      cases hr : (s.devs i).repOn <;> cases hs : (s.devs i).swFlipped <;> intro hy
      · exact ⟨hy, not_owedD (fun e => nomatch hs.symm.trans e) (fun e => nomatch hr.symm.trans e)⟩
      · have h1 := mem_on_swRelease.mp hy
        exact ⟨h1.1, not_owedD (fun _ => h1.2) (fun e => nomatch hr.symm.trans e)⟩
      · have h2 := (on_coilOff _ _ y).mp hy
        exact ⟨h2.1, not_owedD (fun e => nomatch hs.symm.trans e) (fun _ => h2.2)⟩
      · have h1 := mem_on_swRelease.mp hy
        have h2 := (on_coilOff _ _ y).mp h1.1
        exact ⟨h2.1, not_owedD (fun _ => h1.2) (fun _ => h2.2)⟩

theorem invOn_disableDev {c : Cfg} (s : St) (i : Nat) (h : InvOn c s) : InvOn c (disableDev c s i) :=
  invOn_local h (fun _ hj => disableDev_other c s i hj) fun _ hy =>
    ⟨(mem_on_disableDev c s i hy).1, fun ho => absurd ho (mem_on_disableDev c s i hy).2⟩

theorem invOn_stable (c : Cfg) : Stable c (fun _ => True) (InvOn c) where
  quiet _ h hq := invOn_quiet hq h
  swFlip := invOn_swFlip
  swRelease := invOn_swRelease
  fsw := invOn_fswDev
  enable s i _ _ := invOn_enableDev s i
  disable s i _ := invOn_disableDev s i
  hit s i _ _ _ h :=
    have h0 : ∀ hs, InvOn c (upd s i { s.devs i with hits := hs }) := fun _ => invOn_upd _ _ _ h rfl id id
    of_ite (fun _ => of_ite (fun _ => invOn_upd _ _ _ (invOn_disableDev _ i (h0 _)) rfl id id) (h0 _)) h
  fireRe _ i _ _ _ h := of_ite (fun _ => invOn_enableDev _ i (invOn_upd _ _ _ h rfl id id)) h

theorem invOn_run {c : Cfg} (ops : List Op) (s : St) (h : InvOn c s) : InvOn c (run c s ops) :=
  (invOn_stable c).run (fun _ _ _ _ => trivial) h

theorem invOn_init (c : Cfg) : InvOn c init := fun _ hy => absurd hy List.not_mem_nil

theorem InvOn.empty_of_off {c : Cfg} {s : St} (h : InvOn c s)
    (hoff : ∀ i f, i < c.n → (c.dev i).kind = .flipper f → (s.devs i).enabled = false) : s.on = [] := by
  apply List.eq_nil_iff_forall_not_mem.mpr
  intro x hx
  obtain ⟨i, hi, f, hk, hen, _⟩ := h x hx
  exact Bool.noConfusion ((hoff i f hi hk).symm.trans hen)

end MpfVerif.Rules
