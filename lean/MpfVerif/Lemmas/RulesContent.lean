import MpfVerif.Lemmas.Rules
/-!
# C10: the rows of the platform table as written (`effTable`): the owner of a row is unique, so its sampled power setting is found
-/
namespace MpfVerif.Rules

/-- with pairwise distinct rule keys the enabled owner of a row is unique, so `ownerFactor` finds its sampled setting -/
theorem ownerFactor_eq {c : Cfg} (hw : WF c) {s : St} {i : Nat} (hi : i < c.n) (hen : (s.devs i).enabled = true)
    {e : Entry} (he : e ∈ entriesOf (c.dev i)) : ownerFactor c s e c.n = (s.devs i).factor := by
  suffices h : ∀ m, i < m → m ≤ c.n → ownerFactor c s e m = (s.devs i).factor from h c.n hi (Nat.le_refl _)
  intro m
  induction m with
  | zero => intro h; omega
  | succ j ih =>
    intro him hm
    simp only [ownerFactor]
    split
    · rename_i hc
      simp only [Bool.and_eq_true, List.contains_iff_mem] at hc
      by_cases hji : j = i
      · subst hji; rfl
      · exact absurd rfl (hw.apart j i (by omega) hi hji e hc.2 e he)
    · rename_i hc
      have hne : i ≠ j := by
        intro h; subst h
        apply hc
        simp [hen, he]
      exact ih (by omega) (by omega)

theorem mem_effTable {c : Cfg} {s : St} (r : Entry) :
    r ∈ effTable c s ↔ ∃ e ∈ s.table, r = scaleEntry (ownerFactor c s e c.n) e := by
  simp only [effTable, List.mem_map]
  exact ⟨fun ⟨e, he, h⟩ => ⟨e, he, h.symm⟩, fun ⟨e, he, h⟩ => ⟨e, he, h.symm⟩⟩

theorem Inv.content {c : Cfg} (hw : WF c) {s : St} (h : Inv c s) :
    (∀ i, i < c.n → (s.devs i).enabled = true → ∀ e ∈ entriesOf (c.dev i),
      scaleEntry (s.devs i).factor e ∈ effTable c s) ∧
    (∀ r ∈ effTable c s, ∃ i, i < c.n ∧ (s.devs i).enabled = true ∧
      ∃ e ∈ entriesOf (c.dev i), r = scaleEntry (s.devs i).factor e) := by
  constructor
  · intro i hi hen e he
    exact (mem_effTable _).mpr ⟨e, h.complete i hi hen e he, by rw [ownerFactor_eq hw hi hen he]⟩
  · intro r hr
    obtain ⟨e, he, rfl⟩ := (mem_effTable r).mp hr
    obtain ⟨i, hi, hen, hei⟩ := h.sound e he
    exact ⟨i, hi, hen, e, hei, by rw [ownerFactor_eq hw hi hen hei]⟩

end MpfVerif.Rules
