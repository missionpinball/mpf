import MpfVerif.Model.PyEff
import MpfVerif.Lemmas.Hoare
/-! The effectful interpreter: its frame property (running from a log is running from the empty log and prepending it) and one
equation per statement form. -/
namespace MpfVerif.Py

mutual
theorem execES_frame (c : Ctx) (ora : Oracle) : ∀ (s : ESt) (l : Locals) (log : List Eff),
    execES c ora l log s = (log ++ (execES c ora l [] s).1, (execES c ora l [] s).2)
  | .assign n e, l, log => by
    simp only [execES]; cases evalA c l e <;> simp
  | .ifThen cd b e, l, log => by
    simp only [execES]
    cases h : evalC c l cd with
    | error x => simp
    | ok v =>
      cases v
      · exact execEL_frame c ora e l log
      · exact execEL_frame c ora b l log
  | .raise e, l, log => by simp [execES]
  | .ret e, l, log => by
    simp only [execES]; cases evalA c l e <;> simp
  | .callPure t prog args, l, log => by
    simp only [execES]
    cases evalArgs c l args with
    | error x => simp
    | ok vs => simp only []; cases call c prog vs <;> simp
  | .call t prog args, l, log => by
    simp only [execES]
    cases evalArgs c l args with
    | error x => simp
    | ok vs =>
      simp only []
      rw [execEL_frame c ora prog (argLocals vs) log]
      rcases execEL c ora (argLocals vs) [] prog with ⟨lg, _ | _ | _⟩ <;> simp
  | .eff t obj meth args, l, log => by
    simp only [execES]
    cases evalArgs c l args <;> simp
theorem execEL_frame (c : Ctx) (ora : Oracle) : ∀ (p : List ESt) (l : Locals) (log : List Eff),
    execEL c ora l log p = (log ++ (execEL c ora l [] p).1, (execEL c ora l [] p).2)
  | [], l, log => by simp [execEL]
  | s :: rest, l, log => by
    rw [execEL, execEL, execES_frame c ora s l log]
    rcases execES c ora l [] s with ⟨lg, _ | l' | v⟩
    · simp
    · simp only []
      rw [execEL_frame c ora rest l' (log ++ lg), execEL_frame c ora rest l' lg]
      simp [List.append_assoc]
    · simp
end

theorem execEL_append (c : Ctx) (ora : Oracle) (q : List ESt) : ∀ (p : List ESt) (l : Locals) (log : List Eff),
    execEL c ora l log (p ++ q) = match execEL c ora l log p with
      | (log', .ok (.next l')) => execEL c ora l' log' q
      | (log', .ok (.done v)) => (log', .ok (.done v))
      | (log', .error x) => (log', .error x)
  | [], l, log => by simp [execEL]
  | s :: p, l, log => by
    simp only [List.cons_append, execEL]
    rcases execES c ora l log s with ⟨lg, _ | _ | _⟩
    · rfl
    · exact execEL_append c ora q p _ _
    · rfl

variable {c : Ctx} {ora : Oracle} {l : Locals} {log : List Eff} {rest : List ESt}

attribute [pyeval] evalArgs evalA Eff.arg

@[pyeval] theorem bindTarget_some (n : String) (v : PyVal) (m : String) :
    bindTarget l (some n) v m = if m = n then v else l m := rfl
@[pyeval] theorem bindTarget_none (v : PyVal) : bindTarget l none v = l := rfl

theorem arith_isInt {a b : PyVal} (m : Bool) (ha : a.isInt = true) (hb : b.isInt = true) : ∃ v, arith m a b = .ok v := by
  rcases isInt_cases ha with ⟨i, rfl⟩ | rfl | rfl <;> rcases isInt_cases hb with ⟨j, rfl⟩ | rfl | rfl <;> exact ⟨_, rfl⟩

@[pyeval] theorem lookup_cons_eq {α} (k : String) (v : α) (r : List (String × α)) (n : String) :
    List.lookup n ((k, v) :: r) = if n = k then some v else List.lookup n r := by
  rw [List.lookup_cons]
  by_cases h : n = k
  · simp [h]
  · rw [if_neg h, beq_false_of_ne h]

@[pyeval] theorem argLocals_apply (args : List (String × PyVal)) (n : String) :
    argLocals args n = (args.lookup n).getD .none := rfl

@[pyeval] theorem execEL_nil : execEL c ora l log [] = (log, .ok (.next l)) := rfl

@[pyeval] theorem execEL_eff {t obj meth args} :
    execEL c ora l log (.eff t obj meth args :: rest) = match evalArgs c l args with
      | .ok vs => execEL c ora (bindTarget l t (ora ⟨obj, meth, vs⟩)) (log ++ [⟨obj, meth, vs⟩]) rest
      | .error x => (log, .error x) := by
  rw [execEL, execES]; cases evalArgs c l args <;> rfl

@[pyeval] theorem execEL_ret {e} : execEL c ora l log (.ret e :: rest) = match evalA c l e with
      | .ok v => (log, .ok (.done v))
      | .error x => (log, .error x) := by
  rw [execEL, execES]; cases evalA c l e <;> rfl

@[pyeval] theorem execEL_raise {e} : execEL c ora l log (.raise e :: rest) = (log, .error e) := by
  rw [execEL, execES]

@[pyeval] theorem execEL_callPure {t prog args} : execEL c ora l log (.callPure t prog args :: rest) =
    match evalArgs c l args with
    | .ok vs => (match call c prog vs with
      | .ok v => execEL c ora (bindTarget l t v) log rest
      | .error x => (log, .error x))
    | .error x => (log, .error x) := by
  rw [execEL, execES]
  cases evalArgs c l args with
  | error x => rfl
  | ok vs => dsimp only; cases call c prog vs <;> rfl

/- `call` and `ifThen` stay out of `pyeval`: a callee is rewritten by its own lemma and the branch taken is the proof's choice -/
theorem execEL_call {t prog args} : execEL c ora l log (.call t prog args :: rest) =
    match evalArgs c l args with
    | .ok vs => (match execEL c ora (argLocals vs) log prog with
      | (log', .ok (.done v)) => execEL c ora (bindTarget l t v) log' rest
      | (log', .ok (.next _)) => execEL c ora (bindTarget l t .none) log' rest
      | (log', .error x) => (log', .error x))
    | .error x => (log, .error x) := by
  rw [execEL, execES]
  cases evalArgs c l args with
  | error x => rfl
  | ok vs => dsimp only; rcases execEL c ora (argLocals vs) log prog with ⟨L, _ | _ | _⟩ <;> rfl

theorem execEL_ifThen {cd body orelse} : execEL c ora l log (.ifThen cd body orelse :: rest) =
    match evalC c l cd with
    | .ok b => execEL c ora l log ((if b then body else orelse) ++ rest)
    | .error x => (log, .error x) := by
  rw [execEL, execES]
  rcases evalC c l cd with _ | _ | _
  · rfl
  · exact (execEL_append c ora rest orelse l log).symm
  · exact (execEL_append c ora rest body l log).symm

end MpfVerif.Py
