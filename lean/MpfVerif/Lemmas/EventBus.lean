import MpfVerif.Model.EventBus
/-!
# Lemmas for C01: the deque stack of `process_event_queue` simulates one depth-first agenda; sorting; dispatch.
-/
namespace MpfVerif.EventBus

section generic
variable {S Ev : Type}

/-- Loop-head invariant: an empty current deque means nothing is stacked; only the bottom deque of `inner` may be
empty; `event_queue` is empty whenever the inner `while` is running. -/
def Loop.Inv (st : Loop S Ev) : Prop :=
  (st.cur = [] → st.inner = []) ∧ (∀ q ∈ st.inner.dropLast, q ≠ []) ∧ (st.cur ≠ [] → st.queue = [])

theorem forall_dropLast_cons (a : List Ev) (l : List (List Ev)) :
    (∀ q ∈ (a :: l).dropLast, q ≠ []) ↔ (a = [] → l = []) ∧ ∀ q ∈ l.dropLast, q ≠ [] := by
  cases l <;> simp

/-- `if not next_queue and inner_queue: next_queue = inner_queue.popleft()`: the agenda is the same, and still only the
bottom deque may be empty -/
theorem refill_spec {rest cur1 : List Ev} {inner inner1 : List (List Ev)}
    (hr : (match rest, inner with | [], q :: qs => (q, qs) | _, _ => (rest, inner)) = (cur1, inner1))
    (h : ∀ q ∈ inner.dropLast, q ≠ []) :
    cur1 ++ inner1.flatten = rest ++ inner.flatten ∧ (cur1 = [] → inner1 = []) ∧ ∀ q ∈ inner1.dropLast, q ≠ [] := by
  cases rest with
  | cons r rs => cases hr; exact ⟨rfl, nofun, h⟩
  | nil =>
    cases inner with
    | nil => cases hr; exact ⟨rfl, fun _ => rfl, h⟩
    | cons q qs => cases hr; exact ⟨rfl, (forall_dropLast_cons _ _).mp h⟩

section
variable (proc : S → Ev → S × List Ev) (cbrun : S → Option (S × List Ev))

theorem loop_step_eq_none (st : Loop S Ev) :
    Loop.step proc cbrun st = none ↔ st.cur = [] ∧ st.queue = [] ∧ cbrun st.s = none := by
  fun_cases Loop.step proc cbrun st <;> simp_all

theorem spec_step_eq_none (sp : Spec S Ev) :
    Spec.step proc cbrun sp = none ↔ sp.agenda = [] ∧ cbrun sp.s = none := by
  fun_cases Spec.step proc cbrun sp <;> simp [*]

theorem step_dispatch (st : Loop S Ev) (h : Loop.Inv st) (e : Ev) (rest : List Ev) (hc : st.cur = e :: rest) :
    ∃ st', Loop.step proc cbrun st = some st' ∧ Loop.Inv st' ∧
      st'.abs = ⟨(proc st.s e).1, (proc st.s e).2 ++ (rest ++ st.inner.flatten)⟩ := by
  have hq : st.queue = [] := h.2.2 (by simp [hc])
  fun_cases Loop.step proc cbrun st
  -- nothing posted: go on with the refilled `next_queue`
  case case1 hc' _ _ hr _ posted hp queue' hemp =>
    cases hc.symm.trans hc'
    obtain ⟨hflat, hbot, hne⟩ := refill_spec hr h.2.1
    have hpost : posted = [] := by simpa [queue', hq] using hemp
    exact ⟨_, rfl, ⟨hbot, hne, fun _ => rfl⟩, by simp [Loop.abs, hp, hpost, hflat]⟩
  -- something posted: it becomes `next_queue`, the refilled one is stacked
  case case2 hc' _ _ hr _ posted hp queue' hemp =>
    cases hc.symm.trans hc'
    obtain ⟨hflat, hbot, hne⟩ := refill_spec hr h.2.1
    have hpost : queue' ≠ [] := by simpa using hemp
    exact ⟨_, rfl, ⟨fun h => absurd h hpost, (forall_dropLast_cons _ _).mpr ⟨hbot, hne⟩, fun _ => rfl⟩,
      by simp [Loop.abs, hp, queue', hq, hflat]⟩
  -- the three branches with `cur = []` contradict `hc`
  all_goals simp_all
end

/- The only iteration without an agenda step is the swap-in of `event_queue` (`cur = []`, `queue ≠ []`): `abs` appends `queue`
for exactly that state; while the inner loop runs (`cur ≠ []`) the invariant makes `queue` empty and `abs` is the stack. -/
theorem step_sim (proc : S → Ev → S × List Ev) (cbrun : S → Option (S × List Ev)) (st : Loop S Ev)
    (h : Loop.Inv st) :
    match Loop.step proc cbrun st with
    | none => Spec.step proc cbrun st.abs = none
    | some st' => Loop.Inv st' ∧ ((st.cur = [] ∧ st'.abs = st.abs) ∨ Spec.step proc cbrun st.abs = some st'.abs) := by
  cases hc : st.cur with
  | cons e rest =>
    obtain ⟨st', hst, hinv, habs⟩ := step_dispatch proc cbrun st h e rest hc
    rw [hst]
    refine ⟨hinv, Or.inr ?_⟩
    rw [habs, Loop.abs, hc, h.2.2 (by simp [hc])]
    simp [Spec.step]
  | nil =>
    obtain ⟨s, queue, cur, inner⟩ := st
    subst hc
    obtain rfl : inner = [] := h.1 rfl
    cases queue with
    | cons x xs => simp [Loop.step, Loop.abs, Loop.Inv]
    | nil => cases hc : cbrun s <;> simp [Loop.step, Spec.step, Loop.abs, Loop.Inv, hc]

theorem iter_refines (proc : S → Ev → S × List Ev) (cbrun : S → Option (S × List Ev)) (n : Nat) (st : Loop S Ev)
    (h : Loop.Inv st) :
    Loop.Inv (Loop.iter proc cbrun n st) ∧
      ∃ m, m ≤ n ∧ Spec.iter proc cbrun m st.abs = (Loop.iter proc cbrun n st).abs := by
  induction n generalizing st with
  | zero => exact ⟨h, 0, Nat.le_refl _, rfl⟩
  | succ n ih =>
    have hs := step_sim proc cbrun st h
    rw [Loop.iter]
    cases hst : Loop.step proc cbrun st with
    | none => exact ⟨h, 0, Nat.zero_le _, rfl⟩
    | some st' =>
      rw [hst] at hs
      obtain ⟨hi, m, hm, heq⟩ := ih st' hs.1
      refine ⟨hi, ?_⟩
      rcases hs.2 with ⟨_, hstut⟩ | hstep
      · exact ⟨m, Nat.le_succ_of_le hm, hstut ▸ heq⟩
      · exact ⟨m + 1, Nat.succ_le_succ hm, by rw [Spec.iter, hstep]; exact heq⟩

theorem inv_init (s : S) (queue : List Ev) : Loop.Inv (⟨s, queue, [], []⟩ : Loop S Ev) :=
  ⟨fun _ => rfl, nofun, nofun⟩

theorem inv_iter_init (proc : S → Ev → S × List Ev) (cbrun : S → Option (S × List Ev)) (s : S) (queue : List Ev)
    (n : Nat) : Loop.Inv (Loop.iter proc cbrun n ⟨s, queue, [], []⟩) :=
  (iter_refines proc cbrun n ⟨s, queue, [], []⟩ (inv_init s queue)).1

/-- the loop ends exactly when the agenda machine has nothing left to do -/
theorem ends_iff (proc : S → Ev → S × List Ev) (cbrun : S → Option (S × List Ev)) (st : Loop S Ev)
    (h : Loop.Inv st) : Loop.step proc cbrun st = none ↔ Spec.step proc cbrun st.abs = none := by
  rw [loop_step_eq_none, spec_step_eq_none]
  simp only [Loop.abs, List.append_eq_nil_iff]
  exact ⟨fun ⟨hc, hq, hn⟩ => ⟨⟨⟨hc, by simp [h.1 hc]⟩, hq⟩, hn⟩, fun ⟨⟨⟨hc, _⟩, hq⟩, hn⟩ => ⟨hc, hq, hn⟩⟩

end generic

def Desc (l : List Handler) : Prop := l.Pairwise (fun a b => a.prio ≥ b.prio)

theorem Desc.filter {l : List Handler} (hl : Desc l) (p : Handler → Bool) : Desc (l.filter p) :=
  hl.sublist List.filter_sublist

theorem mem_insDesc (h x : Handler) (l : List Handler) : x ∈ insDesc h l ↔ x = h ∨ x ∈ l := by
  fun_induction insDesc h l <;> simp_all [or_left_comm]

theorem insDesc_desc (h : Handler) (l : List Handler) (hl : Desc l) : Desc (insDesc h l) := by
  induction l with
  | nil => simp [insDesc, Desc]
  | cons y ys ih =>
    have ⟨hy, hys⟩ := List.pairwise_cons.mp hl
    unfold insDesc
    split
    · refine List.pairwise_cons.mpr ⟨fun z hz => ?_, hl⟩
      rcases List.mem_cons.mp hz with rfl | hz
      · assumption
      · have := hy z hz; omega
    · refine List.pairwise_cons.mpr ⟨fun z hz => ?_, ih hys⟩
      rcases (mem_insDesc h z ys).mp hz with rfl | hz
      · omega
      · exact hy z hz

theorem sortDesc_desc (l : List Handler) : Desc (sortDesc l) := by
  induction l with
  | nil => exact List.Pairwise.nil
  | cons h r ih => exact insDesc_desc h _ ih

/-- where `add_handler` puts a new handler in an already sorted list: behind every handler of the same or a higher
priority, in front of the first lower one; nothing else moves -/
def insAfter (h : Handler) : List Handler → List Handler
  | [] => [h]
  | y :: ys => if y.prio ≥ h.prio then y :: insAfter h ys else h :: y :: ys

theorem insDesc_head (y : Handler) (l : List Handler) (hl : ∀ z ∈ l, y.prio ≥ z.prio) : insDesc y l = y :: l := by
  cases l with
  | nil => rfl
  | cons z zs => simp [insDesc, hl z List.mem_cons_self]

theorem mem_insAfter (h x : Handler) (l : List Handler) : x ∈ insAfter h l ↔ x = h ∨ x ∈ l := by
  fun_induction insAfter h l <;> simp_all [or_left_comm]

theorem sortDesc_append_one (h : Handler) (l : List Handler) (hl : Desc l) : sortDesc (l ++ [h]) = insAfter h l := by
  induction l with
  | nil => rfl
  | cons y ys ih =>
    have ⟨hy, hys⟩ := List.pairwise_cons.mp hl
    simp only [List.cons_append, sortDesc, ih hys, insAfter]
    split
    · rename_i hge
      apply insDesc_head
      intro z hz
      rcases (mem_insAfter h z ys).mp hz with rfl | hz
      · exact hge
      · exact hy z hz
    · -- `h` is above `y`, hence above all of `ys`
      rename_i hlt
      have hys' : insAfter h ys = h :: ys := by
        cases ys with
        | nil => rfl
        | cons z zs => have := hy z List.mem_cons_self; simp only [insAfter]; rw [if_neg (by omega)]
      rw [hys', insDesc, if_neg hlt, insDesc_head y ys hy]

theorem regGet_regSet (r : Reg) (e e' : Nat) (hs : List Handler) :
    regGet (regSet r e hs) e' = if e = e' then hs else regGet r e' := by
  fun_induction regSet r e hs <;> grind [regGet]

theorem kwGet_kwSet (d : Kw) (k k' : Nat) (v : Val) : kwGet (kwSet d k v) k' = if k = k' then some v else kwGet d k' := by
  fun_induction kwSet d k v <;> grind [kwGet]

theorem kwGet_eq_none (r : Kw) (k : Nat) (h : k ∉ r.map Prod.fst) : kwGet r k = none := by
  induction r with
  | nil => rfl
  | cons q r ih =>
    simp only [List.map_cons, List.mem_cons, not_or] at h
    rw [kwGet, if_neg (Ne.symm h.1), ih h.2]

/-- registry operations of the public API -/
inductive RegOp
  | add (ev : Nat) (h : Handler)
  | removeKey (ev key : Nat)
  | removeAll (ev : Nat)
  | replace (ev : Nat) (h : Handler)
  | removeFn (pid : Nat)
  | removeEvFn (ev pid : Nat)

def applyOp (r : Reg) : RegOp → Reg
  | .add ev h => addHandler r ev h
  | .removeKey ev key => removeKey r ev key
  | .removeAll ev => removeAll r ev
  | .replace ev h => replaceHandler r ev h
  | .removeFn pid => removeFn r pid
  | .removeEvFn ev pid => removeEvFn r ev pid

theorem regGet_removeFn (r : Reg) (pid ev : Nat) :
    regGet (removeFn r pid) ev = (regGet r ev).filter (fun x => x.fn != pid) := by
  fun_induction removeFn r pid <;> grind [regGet]

def RegSorted (r : Reg) : Prop := ∀ ev, Desc (regGet r ev)

theorem RegSorted.regSet {r : Reg} (h : RegSorted r) (e : Nat) {hs : List Handler} (hd : Desc hs) :
    RegSorted (regSet r e hs) := by
  intro ev
  rw [regGet_regSet]
  split
  · exact hd
  · exact h ev

theorem applyOp_sorted (r : Reg) (op : RegOp) (h : RegSorted r) : RegSorted (applyOp r op) := by
  cases op with
  | add e hd => exact h.regSet e (sortDesc_desc _)
  | removeKey e k => exact h.regSet e ((h e).filter _)
  | removeAll e => exact h.regSet e List.Pairwise.nil
  | replace e hd => exact h.regSet e (sortDesc_desc _)
  | removeFn pid => exact fun ev => regGet_removeFn r pid ev ▸ (h ev).filter _
  | removeEvFn e pid => exact h.regSet e ((h e).filter _)

theorem runActs_preserves {P : Core → Prop} (hP : ∀ c a, P c → P (runAct c a).1) (c : Core) (acts : List Act)
    (h : P c) : P (runActs c acts).1 := by
  induction acts generalizing c with
  | nil => exact h
  | cons a r ih =>
    simp only [runActs]
    split
    · exact hP c a h
    · exact ih _ (hP c a h)

@[simp] theorem runAct_cbq (c : Core) (a : Act) : (runAct c a).1.cbq = c.cbq := by
  fun_cases runAct c a <;> rfl

@[simp] theorem runAct_log (c : Core) (a : Act) : (runAct c a).1.log = c.log := by
  fun_cases runAct c a <;> rfl

@[simp] theorem runAct_facts (c : Core) (a : Act) : (runAct c a).1.facts = c.facts := by
  fun_cases runAct c a <;> rfl

theorem runActs_frame {α : Type} (f : Core → α) (hf : ∀ c a, f (runAct c a).1 = f c) (c : Core) (acts : List Act) :
    f (runActs c acts).1 = f c :=
  runActs_preserves (P := fun c' => f c' = f c) (fun c' a h => (hf c' a).trans h) c acts rfl

theorem runAct_reg_sorted (c : Core) (a : Act) (hf : c.facts = Facts.canon) (h : RegSorted c.reg) :
    RegSorted (runAct c a).1.reg := by
  cases a with
  -- an `if` between two results: `iteInduction` (`split` on these records is dear)
  | post | resolve => exact iteInduction (motive := fun x : Core × List Posted => RegSorted x.1.reg) (fun _ => h) fun _ => h
  | add ev hd | replaceRaw ev hd =>
    show RegSorted (addHandlerF c.facts c.reg ev hd)
    rw [hf]
    exact applyOp_sorted c.reg (.add ev hd) h
  | replace ev hd =>
    show RegSorted (replaceHandlerF c.facts c.reg ev hd)
    rw [hf]
    exact applyOp_sorted c.reg (.replace ev hd) h
  | removeKey ev k => exact applyOp_sorted c.reg (.removeKey ev k) h
  | removeAll ev => exact applyOp_sorted c.reg (.removeAll ev) h
  | removeFn pid => exact applyOp_sorted c.reg (.removeFn pid) h
  | removeEvFn ev pid => exact applyOp_sorted c.reg (.removeEvFn ev pid) h
  | _ => exact h

/-- serials of the callbacks that have run -/
def cbSns (log : List Obs) : List Nat :=
  log.filterMap (fun o => match o with | .cb _ sn _ => some sn | .call .. => none)

theorem cbSns_append_call (log : List Obs) (k e n : Nat) (kw : Kw) : cbSns (log ++ [Obs.call k e n kw]) = cbSns log := by
  simp [cbSns, List.filterMap_append]

/-! The inductions over `runHandlers` / `runHandlersX` below are functional inductions: one case per branch of the loop, in
program order (empty snapshot, handler skipped, ...).  The names after `case` bind the *last* hypotheses of the case:
`hc` / `hsk` the skip test, `hx : runActs {c with log := c.log ++ [call]} acts = (c2, p2)` the handler call, `hr` / `hb`
the raised / boolean-stop test, `hx2` the rest of the loop, `ih`. -/

section
variable {c c2 : Core} {k e n : Nat} {m : Kw} {acts : List Act} {p2 : List Posted}
  (hx : runActs { c with log := c.log ++ [Obs.call k e n m] } acts = (c2, p2))
include hx

theorem after_call_log : c2.log = c.log ++ [Obs.call k e n m] :=
  (congrArg (·.1.log) hx).symm.trans (runActs_frame _ runAct_log _ _)

theorem after_call_frame : c2.cbq = c.cbq ∧ cbSns c2.log = cbSns c.log ∧ c2.facts = c.facts :=
  ⟨(congrArg (·.1.cbq) hx).symm.trans (runActs_frame _ runAct_cbq _ _),
    by rw [after_call_log hx, cbSns_append_call],
    (congrArg (·.1.facts) hx).symm.trans (runActs_frame _ runAct_facts _ _)⟩
end

theorem runHandlers_frame (progs : Nat → Prog) (ev sn : Nat) (ty : Ty) (hs : List Handler) (c : Core) (kw : Kw)
    (res : Ret) : (runHandlers progs ev sn ty hs c kw res).1.cbq = c.cbq ∧
      cbSns (runHandlers progs ev sn ty hs c kw res).1.log = cbSns c.log := by
  fun_induction runHandlers progs ev sn ty hs c kw res
  case case1 => exact ⟨rfl, rfl⟩
  case case2 ih => exact ih
  -- boolean stop
  case case3 hx _ _ => exact ⟨(after_call_frame hx).1, (after_call_frame hx).2.1⟩
  -- called, the loop goes on
  case case4 hx _ _ _ _ _ _ _ hx2 ih =>
    rw [hx2] at ih
    exact ⟨ih.1.trans (after_call_frame hx).1, ih.2.trans (after_call_frame hx).2.1⟩

/-- calls logged by one dispatch of a plain event: the snapshot handlers whose condition holds on the merged kwargs,
each once, in list order -/
def expectedCalls (ev sn : Nat) (kw : Kw) (hs : List Handler) : List Obs :=
  (hs.filter (fun h => condHolds h.cond (kwUpdate kw h.kw))).map (fun h => Obs.call h.key ev sn (kwUpdate kw h.kw))

theorem runHandlers_plain_log (progs : Nat → Prog) (ev sn : Nat) (hs : List Handler) (c : Core) (kw : Kw) (res : Ret) :
    (runHandlers progs ev sn .plain hs c kw res).1.log = c.log ++ expectedCalls ev sn kw hs ∧
    (runHandlers progs ev sn .plain hs c kw res).2.1 = kw := by
  fun_induction runHandlers progs ev sn .plain hs c kw res
  case case1 => exact ⟨(List.append_nil _).symm, rfl⟩
  case case2 hc ih =>
    rw [expectedCalls, List.filter_cons_of_neg (by simpa using hc)]
    exact ih
  -- boolean stop
  case case3 hb => exact nomatch hb.1
  -- called, the loop goes on
  case case4 hc _ _ _ hx _ _ _ _ _ _ _ hx2 ih =>
    rw [hx2] at ih
    rw [expectedCalls, List.filter_cons_of_pos (by simpa using hc)]
    exact ⟨ih.1.trans (by rw [after_call_log hx, List.append_assoc]; rfl), ih.2⟩

/-- reference: what a relay event's kwargs become — the left fold of the handlers' returned dicts -/
def relayFold (progs : Nat → Prog) : List Handler → Kw → Kw
  | [], kw => kw
  | h :: hs, kw =>
    if !condHolds h.cond (kwUpdate kw h.kw) then relayFold progs hs kw
    else match (progs h.pid).ret with
      | .dict d => relayFold progs hs (kwUpdate kw (ofInts d))
      | _ => relayFold progs hs kw

/-- reference: the handler calls of a relay event — each handler sees the fold so far merged with its own kwargs -/
def relayCalls (progs : Nat → Prog) (ev sn : Nat) : List Handler → Kw → List Obs
  | [], _ => []
  | h :: hs, kw =>
    if !condHolds h.cond (kwUpdate kw h.kw) then relayCalls progs ev sn hs kw
    else Obs.call h.key ev sn (kwUpdate kw h.kw) :: (match (progs h.pid).ret with
      | .dict d => relayCalls progs ev sn hs (kwUpdate kw (ofInts d))
      | _ => relayCalls progs ev sn hs kw)

/-- reference for boolean events: calls up to and including the first handler returning `False` -/
def boolCalls (progs : Nat → Prog) (ev sn : Nat) (kw : Kw) : List Handler → List Obs
  | [] => []
  | h :: hs =>
    if !condHolds h.cond (kwUpdate kw h.kw) then boolCalls progs ev sn kw hs
    else Obs.call h.key ev sn (kwUpdate kw h.kw) ::
      (if (progs h.pid).ret = .bool false then [] else boolCalls progs ev sn kw hs)

/-- does some called handler return `False`? -/
def boolStops (progs : Nat → Prog) (kw : Kw) : List Handler → Bool
  | [] => false
  | h :: hs =>
    if !condHolds h.cond (kwUpdate kw h.kw) then boolStops progs kw hs
    else if (progs h.pid).ret = .bool false then true else boolStops progs kw hs

theorem runHandlers_relay (progs : Nat → Prog) (ev sn : Nat) (hs : List Handler) (c : Core) (kw : Kw) (res : Ret) :
    (runHandlers progs ev sn .relay hs c kw res).1.log = c.log ++ relayCalls progs ev sn hs kw ∧
    (runHandlers progs ev sn .relay hs c kw res).2.1 = relayFold progs hs kw := by
  fun_induction runHandlers progs ev sn .relay hs c kw res
  case case1 => exact ⟨(List.append_nil _).symm, rfl⟩
  case case2 hc ih =>
    rw [relayCalls, relayFold, if_pos hc, if_pos hc]
    exact ih
  -- boolean stop
  case case3 hb => exact nomatch hb.1
  -- called, the loop goes on
  case case4 h _ _ _ _ _ hc _ _ _ hx r _ kw' _ _ _ _ hx2 ih =>
    rw [hx2] at ih
    rw [relayCalls, relayFold, if_neg hc, if_neg hc]
    refine ⟨ih.1.trans ?_, ih.2.trans ?_⟩
    · rw [after_call_log hx, List.append_assoc]
      simp only [kw', r]
      cases (progs h.pid).ret <;> rfl
    · simp only [kw', r]
      cases (progs h.pid).ret <;> rfl

theorem runHandlers_boolean (progs : Nat → Prog) (ev sn : Nat) (hs : List Handler) (c : Core) (kw : Kw) (res : Ret) :
    (runHandlers progs ev sn .boolean hs c kw res).1.log = c.log ++ boolCalls progs ev sn kw hs ∧
    (runHandlers progs ev sn .boolean hs c kw res).2.1 =
      (if boolStops progs kw hs then kwSet kw evResult (.bool false) else kw) := by
  fun_induction runHandlers progs ev sn .boolean hs c kw res
  case case1 => exact ⟨(List.append_nil _).symm, rfl⟩
  case case2 hc ih =>
    rw [boolCalls, boolStops, if_pos hc, if_pos hc]
    exact ih
  -- boolean stop
  case case3 hc _ _ _ hx _ hb =>
    rw [boolCalls, boolStops, if_neg hc, if_neg hc, if_pos hb.2, if_pos hb.2]
    exact ⟨after_call_log hx, rfl⟩
  -- called, the loop goes on
  case case4 hc _ _ _ hx _ hb _ _ _ _ _ hx2 ih =>
    have hb' := fun h => hb ⟨rfl, h⟩
    rw [hx2] at ih
    rw [boolCalls, boolStops, if_neg hc, if_neg hc, if_neg hb', if_neg hb']
    exact ⟨ih.1.trans (by rw [after_call_log hx, List.append_assoc]; rfl), ih.2⟩

/-! ## the loop as the code runs it: blocking, `_min_priority` results, exceptions -/

/-- reference: the handler calls of one dispatch (any event type) when nobody raises — a function of the snapshot, the
posted kwargs and the handlers' return values only.  A handler is left out when its blocking facility is blocked by the
`_min_priority` an earlier handler of this dispatch returned (or that was posted), or when its condition is false. -/
def dispCalls (progs : Nat → Prog) (ev sn : Nat) (ty : Ty) : List Handler → Kw → List Obs
  | [], _ => []
  | h :: hs, kw =>
    if blocked kw h || !condHolds h.cond (kwUpdate kw h.kw) then dispCalls progs ev sn ty hs kw
    else Obs.call h.key ev sn (kwUpdate kw h.kw) ::
      (if ty = .boolean ∧ (progs h.pid).ret = .bool false then []
       else dispCalls progs ev sn ty hs (foldRet ty (progs h.pid).ret kw))

theorem runHandlersX_frame (progs : Nat → Prog) (ev sn : Nat) (ty : Ty) (hs : List Handler) (c : Core) (kw : Kw)
    (res : Ret) : (runHandlersX progs ev sn ty hs c kw res).1.cbq = c.cbq ∧
      cbSns (runHandlersX progs ev sn ty hs c kw res).1.log = cbSns c.log ∧
      (runHandlersX progs ev sn ty hs c kw res).1.facts = c.facts := by
  fun_induction runHandlersX progs ev sn ty hs c kw res
  case case1 => exact ⟨rfl, rfl, rfl⟩
  case case2 ih => exact ih
  -- the handler raised
  case case3 hx _ => exact after_call_frame hx
  -- boolean stop
  case case4 hx _ _ _ => exact after_call_frame hx
  -- called, the loop goes on
  case case5 hx _ _ _ _ _ _ _ hx2 ih =>
    rw [hx2] at ih
    have hk := after_call_frame hx
    exact ⟨ih.1.trans hk.1, ih.2.1.trans hk.2.1, ih.2.2.trans hk.2.2⟩

theorem runHandlersX_log (progs : Nat → Prog) (ev sn : Nat) (ty : Ty) (hs : List Handler) (c : Core) (kw : Kw) (res : Ret) :
    ∃ n, (runHandlersX progs ev sn ty hs c kw res).1.log = c.log ++ (dispCalls progs ev sn ty hs kw).take n ∧
      ((runHandlersX progs ev sn ty hs c kw res).1.raised = false → (dispCalls progs ev sn ty hs kw).length ≤ n) := by
  fun_induction runHandlersX progs ev sn ty hs c kw res
  case case1 => exact ⟨0, (List.append_nil _).symm, fun _ => Nat.le_refl _⟩
  case case2 hsk ih =>
    rw [dispCalls, if_pos hsk]
    exact ih
  -- the handler raised
  case case3 hsk _ _ _ hx hr =>
    rw [dispCalls, if_neg hsk]
    exact ⟨1, after_call_log hx, fun h' => absurd hr (Bool.eq_false_iff.mp h')⟩
  -- boolean stop
  case case4 hsk _ _ _ hx _ _ hb =>
    rw [dispCalls, if_neg hsk, if_pos hb]
    exact ⟨1, after_call_log hx, fun _ => Nat.le_refl 1⟩
  -- called, the loop goes on
  case case5 hsk _ _ _ hx _ _ hb _ _ _ _ hx2 ih =>
    rw [dispCalls, if_neg hsk, if_neg hb]
    rw [hx2] at ih
    obtain ⟨n, h1, h2⟩ := ih
    exact ⟨n + 1, h1.trans (by rw [after_call_log hx, List.append_assoc]; rfl), fun h' => Nat.succ_le_succ (h2 h')⟩

theorem processEvent_log (progs : Nat → Prog) (c : Core) (e : Posted) :
    ∃ n, (processEvent progs c e).1.log = c.log ++ (dispCalls progs e.ev e.sn e.ty (regGet c.reg e.ev) e.kw).take n ∧
      ((processEvent progs c e).1.raised = false →
        (dispCalls progs e.ev e.sn e.ty (regGet c.reg e.ev) e.kw).length ≤ n) := by
  have h := runHandlersX_log progs e.ev e.sn e.ty (regGet c.reg e.ev) { c with qempty := true } e.kw .none
  fun_cases processEvent progs c e
  all_goals
    rw [‹runHandlersX _ _ _ _ _ _ _ _ = _›] at h
    exact h

theorem popLast_spec {α : Type} (l r : List α) (x : α) (h : popLast l = some (r, x)) : l = r ++ [x] := by
  induction l generalizing r with
  | nil => cases h
  | cons a t ih =>
    cases t with
    | nil =>
      cases h
      rfl
    | cons b t' =>
      rw [popLast] at h
      cases hp : popLast (b :: t') with
      | none =>
        rw [hp] at h
        cases h
      | some q =>
        rw [hp] at h
        cases h
        rw [ih _ hp]
        rfl

theorem popAt_right_spec {α : Type} (l r : List α) (x : α) (h : popAt .right l = some (x, r)) : l = r ++ [x] := by
  apply popLast_spec
  cases l <;> simp only [popAt] at h <;> split at h <;> simp_all

theorem enq_right {α : Type} (q p : List α) : enq .right q p = q ++ p := by cases q <;> rfl

/-- with the canonical deque ends the parameterised iteration IS the iteration the refinement theorems are about -/
theorem Loop.stepF_canon {S Ev : Type} (proc : S → Ev → S × List Ev) (cbrun : S → Option (S × List Ev)) (st : Loop S Ev) :
    Loop.stepF Facts.canon proc cbrun st = Loop.step proc cbrun st := by
  obtain ⟨s, queue, cur, inner⟩ := st
  cases cur with
  | nil => cases queue <;> rfl
  | cons e rest =>
    cases rest with
    | nil => cases inner <;> cases queue <;> rfl
    | cons r rs => cases queue <;> rfl

/-! ## futures: `_wait_handler` resolves a future at most once -/

def futs (m : List (Nat × SObs)) : List Nat :=
  m.filterMap (fun p => match p.2 with | .fut w => some w | _ => none)

/-- every future reported as resolved is in `resolved`, and none is reported twice -/
def FutInv (c : Core) : Prop := (futs c.mlog).Nodup ∧ ∀ w ∈ futs c.mlog, w ∈ c.resolved

theorem runAct_futInv (c : Core) (a : Act) (h : FutInv c) : FutInv (runAct c a).1 := by
  cases a with
  | post ev ty cb kw =>
    have hm : futs (if c.mon then c.mlog ++ [(c.log.length, SObs.mon ev c.nextSn kw)] else c.mlog) = futs c.mlog := by
      cases c.mon
      · rfl
      · exact List.filterMap_append.trans (List.append_nil _)
    exact iteInduction (motive := fun x : Core × List Posted => FutInv x.1) (fun _ => h) fun _ => ⟨hm ▸ h.1, hm ▸ h.2⟩
  | resolve wid =>
    refine iteInduction (motive := fun x : Core × List Posted => FutInv x.1) (fun _ => h) fun hw => ?_
    -- a new future: it was not in `resolved`, hence not reported before
    have hfut : futs (c.mlog ++ [(c.log.length, SObs.fut wid)]) = futs c.mlog ++ [wid] := List.filterMap_append
    have hnew : wid ∉ futs c.mlog := fun hm => hw (List.contains_iff_mem.mpr (h.2 wid hm))
    refine ⟨hfut ▸ List.nodup_append.mpr ⟨h.1, List.pairwise_singleton .., fun a ha b hb e =>
      hnew (List.mem_singleton.mp hb ▸ e ▸ ha)⟩, fun w hm => ?_⟩
    rcases List.mem_append.mp (hfut ▸ hm) with hm | hm
    · exact List.mem_cons_of_mem _ (h.2 w hm)
    · exact List.mem_singleton.mp hm ▸ List.mem_cons_self
  | _ => exact h

end MpfVerif.EventBus
