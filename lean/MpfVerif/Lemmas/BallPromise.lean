import MpfVerif.Model.BallPromise
/-! Helper lemmas for the promise ledger (C05). -/
namespace MpfVerif.BallPromise

theorem total_append (l : List Nat) (k : Nat) : total (l ++ [k]) = total l + k := by
  induction l with
  | nil => simp [total]
  | cons x r ih => simp only [List.cons_append, total, ih]; omega

theorem total_removeFirst (k : Nat) (l r : List Nat) (h : removeFirst k l = some r) : total l = total r + k := by
  induction l generalizing r with
  | nil => simp [removeFirst] at h
  | cons x t ih =>
    simp only [removeFirst] at h
    split at h
    · rename_i hx
      cases h
      simp only [total]; omega
    · split at h
      · rename_i r' hr
        cases h
        have := ih r' hr
        simp only [total]; omega
      · cases h

theorem removeFirst_head (k : Nat) (r : List Nat) : removeFirst k (k :: r) = some r := by
  simp [removeFirst]

/-- the invariant: every announced ball has been requested from the playfield or sits in a pending delay -/
def Inv (s : St) : Prop := s.promised + s.over = s.requested + total s.pending

theorem step_inv (s s' : St) (o : Op) (hi : Inv s) (h : step s o = some s') : Inv s' := by
  unfold Inv at *
  cases o with
  | promise k | overask k =>
    cases h
    simp only []
    omega
  | save k =>
    simp only [step] at h
    split at h <;> cases h
    · simp only []
      omega
    · simp only [total_append]
      omega
  | fire k =>
    simp only [step] at h
    split at h
    · cases h
      have := total_removeFirst k s.pending _ ‹_›
      simp only []
      omega
    · cases h
  | deliver =>
    cases h
    exact hi

theorem run_inv (ops : List Op) (s s' : St) (hi : Inv s) (h : run s ops = some s') : Inv s' := by
  induction ops generalizing s with
  | nil => simp only [run, Option.some.injEq] at h; subst h; exact hi
  | cons o r ih =>
    simp only [run] at h
    split at h
    · rename_i s1 h1
      exact ih s1 (step_inv s s1 o hi h1) h
    · cases h

end MpfVerif.BallPromise
