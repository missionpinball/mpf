import MpfVerif.Model.Player
/-! Helper lemmas for C11: dictionary updates, list updates at one index, the pointer invariant. -/
namespace MpfVerif.Player
variable (c : Cfg) (s : St)

theorem get_put_same (m : Vars) (k : String) (v : Val) : get (put m k v) k = some v := by
  induction m with
  | nil => simp [put, get]
  | cons kv r ih =>
    unfold put
    split
    · simp [get]
    · next h => simpa [get, List.lookup, beq_eq_false_iff_ne.mpr (Ne.symm h)] using ih

theorem get_put_other (m : Vars) (k k2 : String) (v : Val) (h : k2 ≠ k) : get (put m k v) k2 = get m k2 := by
  have hb := beq_eq_false_iff_ne.mpr h
  induction m with
  | nil => simp [put, get, List.lookup, hb]
  | cons kv r ih =>
    unfold put
    split
    · next e => simp [get, List.lookup, e, hb]
    · simp only [get, List.lookup] at ih ⊢
      rw [ih]

@[simp] theorem modify_eq (ps : List Vars) (i : Nat) (f : Vars → Vars) : modify ps i f = ps.modify i f := by
  induction ps generalizing i with
  | nil => simp [modify]
  | cons m r ih => cases i <;> simp [modify, ih]

theorem getD_modify_self {ps : List Vars} {i : Nat} (h : i < ps.length) (f : Vars → Vars) :
    ((ps.modify i f)[i]?).getD [] = f ((ps[i]?).getD []) := by
  simp [List.getElem?_eq_getElem h]

/-- the game mode's devices point nowhere, or into the current player's dictionary; the current player exists -/
def Inv (s : St) : Prop := (s.dev = none ∨ s.dev = some s.cur) ∧ (s.players ≠ [] → s.cur < s.players.length)

instance (s : St) : Decidable (Inv s) := by unfold Inv; infer_instance

@[simp] theorem setOn_fst (i : Nat) (k : String) (v : Val) :
    (setOn s i k v).1 = { s with players := s.players.modify i fun _ => put (varsOf s i) k v } := by
  simp [setOn, setVar]

attribute [local simp] modeStart

theorem refusedOr {P : St → Prop} {s : St} {g : Prop} [Decidable g] {x : St × List Ev} (h : P s) (hx : ¬g → P x.1) :
    P (if g then (s, []) else x).1 := by
  split
  · exact h
  · exact hx ‹_›

/-- player `i` is handed the ball.  `turnStart` is the case `k = "ball"` (`turnStart_eq`), the extra-ball branch of
`drainStep` the case `k = "extra_balls"`. -/
def handTo (c : Cfg) (s : St) (i : Nat) (k : String) (v : Val) : St × List Ev :=
  let r := setOn { s with cur := i } i k v
  (ballStart c r.1 i, r.2 ++ ballStartEvs c r.1 i)

theorem turnStart_eq (i : Nat) :
    turnStart c s i = handTo c s i "ball" (.int (intVar (varsOf s i) "ball" + 1)) := rfl

@[simp] theorem handTo_fst (i : Nat) (k : String) (v : Val) :
    (handTo c s i k v).1 =
      { s with cur := i, dev := if c.autoStart then some i else s.dev,
               players := (s.players.modify i fun _ => put (varsOf s i) k v).modify i
                 (if c.autoStart then loadAll c.devs else id),
               locs := if c.autoStart then c.devs.map (·.loc0) else s.locs } := by
  unfold handTo ballStart
  split <;> simp [varsOf]

theorem handTo_cur (i : Nat) (k : String) (v : Val) : (handTo c s i k v).1.cur = i := by
  rw [handTo_fst]

theorem turnStart_cur (i : Nat) : (turnStart c s i).1.cur = i := handTo_cur ..

theorem next_lt {i n : Nat} (h : i < n) : (if i + 1 < n then i + 1 else 0) < n := by split <;> omega

theorem drainStep_cases :
    (s.players = [] ∧ drainStep c s = (s, [])) ∨
    drainStep c s = ({ s with players := [], cur := 0, dev := none }, []) ∨
    ∃ i k v, s.players ≠ [] ∧ (s.cur < s.players.length → i < s.players.length) ∧ (k = "ball" ∨ k = "extra_balls") ∧
      drainStep c s = handTo c { s with dev := none } i k v := by
  unfold drainStep
  by_cases hp : s.players = []
  · exact .inl ⟨hp, if_pos hp⟩
  · rw [if_neg hp]
    right
    by_cases hx : intVar (varsOf s s.cur) "extra_balls" = 0
    · by_cases hy : intVar (varsOf s s.cur) "ball" ≥ c.ballsPerGame ∧ s.cur + 1 = s.players.length
      · exact .inl ((if_neg (not_not_intro hx)).trans (if_pos hy))
      · exact .inr ⟨_, "ball", _, hp, next_lt, .inl rfl, (if_neg (not_not_intro hx)).trans (if_neg hy)⟩
    · exact .inr ⟨s.cur, "extra_balls", _, hp, id, .inr rfl, if_pos hx⟩

theorem modeStart_cases :
    step c s .modeStart = (s, []) ∨ step c s .modeStart = (modeStart c s s.cur, modeStartEvs c s s.cur) := by
  simp only [step]
  split
  · exact .inl rfl
  · split
    · exact .inl rfl
    · exact .inr rfl

theorem modeStart_refused (hd : s.dev ≠ none) : step c s .modeStart = (s, []) := by
  simp only [step]
  split
  · rfl
  · split
    · rfl
    · next h => exact absurd h hd

theorem drain_cases :
    (s.hold = true ∧ step c s .drain = ({ s with ending := true }, [])) ∨
    (s.hold = false ∧ step c s .drain = drainStep c s) := by
  cases hh : s.hold <;> simp [step, hh]

theorem release_cases :
    step c s .release = (s, []) ∨
    step c s .release = ({ s with hold := false, ending := false, dev := none }, []) ∨
    step c s .release = drainStep c { s with hold := false, ending := false, dev := none } := by
  cases hh : s.hold <;> cases he : s.ending <;> simp [step, hh, he]

theorem drainPre_cases :
    (s.hold = true ∧ (step c s .drainPre).1 = { s with ending := true }) ∨
    s.hold = false ∧ (
      (step c s .drainPre).1 = s ∨
      (∃ v, (step c s .drainPre).1 = (setOn (modeStart c { s with dev := none } s.cur) s.cur "extra_balls" v).1) ∨
      (step c s .drainPre).1 = { s with players := [], cur := 0, dev := none } ∨
      ∃ i v, s.players ≠ [] ∧ (s.cur < s.players.length → i < s.players.length) ∧
        (step c s .drainPre).1 =
          (handTo c { modeStart c { s with dev := none } s.cur with dev := none } i "ball" v).1) := by
  -- the `if` chain of `step … .drainPre` is peeled by `if_pos` / `if_neg` rewriting in `hr`
  generalize hr : (step c s .drainPre).1 = r
  simp only [step] at hr
  by_cases hh : s.hold = true
  · rw [if_pos hh] at hr
    exact .inl ⟨hh, hr.symm⟩
  refine .inr ⟨eq_false_of_ne_true hh, ?_⟩
  by_cases hp : s.players = []
  · rw [if_neg hh, if_pos hp] at hr
    exact .inl hr.symm
  rw [if_neg hh, if_neg hp] at hr
  right
  generalize e0 : modeStart c { s with dev := none } s.cur = s0 at hr ⊢
  have hc : s0.cur = s.cur := e0 ▸ rfl
  by_cases hx : intVar (varsOf s0 s0.cur) "extra_balls" ≠ 0
  · rw [if_pos hx, hc] at hr
    exact .inl ⟨_, hr.symm⟩
  by_cases hy : intVar (varsOf s0 s0.cur) "ball" ≥ c.ballsPerGame ∧ s0.cur + 1 = s0.players.length
  · rw [if_neg hx, if_pos hy] at hr
    exact .inr (.inl hr.symm)
  rw [if_neg hx, if_neg hy] at hr
  refine .inr (.inr ⟨_, _, hp, ?_, hr.symm⟩)
  have hl : s0.players.length = s.players.length := by
    rw [← e0]
    simp
  rw [hc, hl]
  exact next_lt

theorem targetOf_lt (s : St) (p : Nat) (h : s.players ≠ [] → s.cur < s.players.length) (hne : s.players ≠ []) :
    targetOf s p < s.players.length := by
  unfold targetOf
  split
  · assumption
  · exact h hne

theorem inv_of_nil {s : St} (hp : s.players = []) (hd : s.dev = none) : Inv s := ⟨.inl hd, fun h => absurd hp h⟩

theorem inv_handTo {i : Nat} (k : String) (v : Val) (hd : s.dev = none) (hi : i < s.players.length) :
    Inv (handTo c s i k v).1 := by
  cases ha : c.autoStart <;> simp [Inv, hd, hi]

theorem inv_drainStep (h : Inv s) : Inv (drainStep c s).1 := by
  rcases drainStep_cases c s with ⟨-, e⟩ | e | ⟨i, k, v, hp, hi, -, e⟩ <;> rw [e]
  · exact h
  · exact inv_of_nil rfl rfl
  · exact inv_handTo c _ k v rfl (hi (h.2 hp))

/-- the player an explicitly targeted `variable_player` entry names (that entry is *meant* to write to that player) -/
def explicitTarget : Op → Option Nat
  | .setP p _ _ => some p
  | .addP p _ _ => some p
  | _ => none

/-- the requests that neither move the turn nor start or stop the game mode -/
def Op.local : Op → Bool
  | .set .. | .add .. | .setP .. | .addP .. | .setMachine .. | .addMachine .. | .wait _ | .dev .. | .swap .. => true
  | _ => false

def WritesAt (s : St) (i : Nat) (s' : St) : Prop :=
  ∃ f ls m, s' = { s with players := s.players.modify i f, locs := ls, machine := m }

theorem WritesAt.machine {s : St} {i : Nat} (m : Vars) : WritesAt s i { s with machine := m } :=
  ⟨id, s.locs, m, by simp⟩

theorem WritesAt.refl {s : St} {i : Nat} : WritesAt s i s := .machine s.machine

theorem WritesAt.inv {s s' : St} {i : Nat} (w : WritesAt s i s') (h : Inv s) : Inv s' := by
  obtain ⟨f, ls, m, rfl⟩ := w
  exact ⟨h.1, by simpa using h.2⟩

theorem WritesAt.other {s s' : St} {i q : Nat} (w : WritesAt s i s') (hq : i ≠ q) : s'.players[q]? = s.players[q]? := by
  obtain ⟨f, ls, m, rfl⟩ := w
  exact List.getElem?_modify_ne _ _ hq

theorem step_local {op : Op} (h : op.local = true) :
    ∃ i, (i = s.cur ∨ s.dev = some i ∨ explicitTarget op = some i) ∧ WritesAt s i (step c s op).1 := by
  have target : ∀ p, targetOf s p = s.cur ∨ some p = some (targetOf s p) := fun p => by
    unfold targetOf
    split
    · exact .inr rfl
    · exact .inl rfl
  cases op with
  | set k v => exact ⟨_, .inl rfl, refusedOr .refl fun _ => ⟨_, _, _, setOn_fst ..⟩⟩
  | setP p k v => exact ⟨_, (target p).imp_right .inr, refusedOr .refl fun _ => ⟨_, _, _, setOn_fst ..⟩⟩
  | setMachine k v => exact ⟨_, .inl rfl, refusedOr .refl fun _ => .machine _⟩
  | add k d =>
    refine ⟨_, .inl rfl, refusedOr .refl fun _ => ?_⟩
    split
    · exact ⟨_, _, _, setOn_fst ..⟩
    · exact .refl
  | addP p k d =>
    refine ⟨_, (target p).imp_right .inr, refusedOr .refl fun _ => ?_⟩
    split
    · exact ⟨_, _, _, setOn_fst ..⟩
    · exact .refl
  | addMachine k d =>
    refine ⟨_, .inl rfl, refusedOr .refl fun _ => ?_⟩
    split
    · exact .machine _
    · exact .refl
  | wait | swap =>
    simp only [step, modify_eq]
    split
    · exact ⟨_, .inl rfl, .refl⟩
    · next p hp => exact ⟨p, .inr (.inl hp), _, _, _, rfl⟩
  | dev d code =>
    simp only [step, modify_eq]
    split
    · exact ⟨_, .inl rfl, .refl⟩
    · next p hp =>
      split
      · exact ⟨_, .inl rfl, .refl⟩
      · split
        · exact ⟨_, .inl rfl, .refl⟩
        · exact ⟨p, .inr (.inl hp), _, _, _, rfl⟩
  | _ => cases h

theorem inv_step (op : Op) (h : Inv s) : Inv (step c s op).1 := by
  by_cases hl : op.local = true
  · obtain ⟨i, -, w⟩ := step_local c s hl
    exact w.inv h
  cases op with
  | startGame =>
    simp only [step]
    split
    · exact h
    · exact inv_handTo c _ _ _ rfl Nat.zero_lt_one
  | addPlayer =>
    refine refusedOr h fun hc => ⟨h.1, fun _ => ?_⟩
    rw [List.length_append]
    exact Nat.lt_add_right _ (h.2 fun e => hc (.inl (congrArg List.length e)))
  | drain =>
    rcases drain_cases c s with ⟨-, e⟩ | ⟨-, e⟩ <;> rw [e]
    · exact h
    · exact inv_drainStep c s h
  | endGame => exact inv_of_nil rfl rfl
  | modeStop => exact refusedOr h fun _ => ⟨.inl rfl, h.2⟩
  | modeStopHold =>
    simp only [step]
    split <;> exact h
  | release =>
    rcases release_cases c s with e | e | e <;> rw [e]
    · exact h
    · exact ⟨.inl rfl, h.2⟩
    · exact inv_drainStep c _ ⟨.inl rfl, h.2⟩
  | modeStart =>
    rcases modeStart_cases c s with e | e <;> rw [e]
    · exact h
    · exact ⟨.inr rfl, by simpa using h.2⟩
  | drainPre =>
    rcases drainPre_cases c s with ⟨-, e⟩ | ⟨-, e | ⟨v, e⟩ | e | ⟨i, v, hp, hi, e⟩⟩ <;> rw [e]
    · exact h
    · exact h
    · exact ⟨.inr rfl, by simpa using h.2⟩
    · exact inv_of_nil rfl rfl
    · exact inv_handTo c _ _ _ rfl (by simpa using hi (h.2 hp))
  | _ => exact absurd rfl hl

theorem dev_eq_cur {s : St} (h : Inv s) {p : Nat} (hp : s.dev = some p) : p = s.cur := by
  rcases h.1 with e | e
  · exact absurd (hp.symm.trans e) (Option.some_ne_none p)
  · exact Option.some.inj (hp.symm.trans e)

theorem frame_drainStep (q : Nat) (h2 : q ≠ (drainStep c s).1.cur)
    (hg : (drainStep c s).1.players ≠ []) : (drainStep c s).1.players[q]? = s.players[q]? := by
  rcases drainStep_cases c s with ⟨-, e⟩ | e | ⟨i, k, v, -, -, -, e⟩
  · rw [e]
  · rw [e] at hg
    exact absurd rfl hg
  · rw [e, handTo_cur] at h2
    rw [e]
    simp [Ne.symm h2]

/-- over the history `ops` from `s`, player `q` is never the one who is up, is never named explicitly as the target of
a `variable_player` entry, and the game does not end -/
def quiet (c : Cfg) (q : Nat) : St → List Op → Prop
  | _, [] => True
  | s, op :: rest => q ≠ s.cur ∧ q ≠ (step c s op).1.cur ∧ (step c s op).1.players ≠ [] ∧ explicitTarget op ≠ some q ∧
      quiet c q (step c s op).1 rest

theorem run_invariant {P : St → Prop} (hP : ∀ s op, P s → P (step c s op).1) (ops : List Op) :
    ∀ s, P s → P (run c s ops) := by
  induction ops with
  | nil => exact fun _ h => h
  | cons op rest ih => exact fun s h => ih _ (hP s op h)

/-- device keys are pairwise different and none of them is a variable the game itself writes at ball start -/
def KeysOK (c : Cfg) : Prop :=
  (c.devs.map (·.key)).Nodup ∧ ∀ d ∈ c.devs, d.key ≠ "ball" ∧ d.key ≠ "extra_balls"

/-- the state device `d` takes when the mode starts on dictionary `m` -/
def loaded (d : Dev) (m : Vars) : Val := match get m d.key with | some v => d.load v | none => d.fresh

theorem loaded_of_none {d : Dev} {m : Vars} (h : get m d.key = none) : loaded d m = d.fresh := by
  unfold loaded
  rw [h]

theorem loadAll_other (devs : List Dev) (m : Vars) (k : String) (h : k ∉ devs.map (·.key)) :
    get (loadAll devs m) k = get m k := by
  induction devs generalizing m with
  | nil => rfl
  | cons d r ih =>
    simp only [List.map_cons, List.mem_cons, not_or] at h
    rw [loadAll, ih _ h.2, get_put_other _ _ _ _ h.1]

theorem loadAll_get (devs : List Dev) (m : Vars) (hn : (devs.map (·.key)).Nodup) (d : Dev) (hd : d ∈ devs) :
    get (loadAll devs m) d.key = some (loaded d m) := by
  induction devs generalizing m with
  | nil => simp at hd
  | cons d0 r ih =>
    simp only [List.map_cons, List.nodup_cons] at hn
    rw [loadAll]
    rcases List.mem_cons.mp hd with e | e
    · subst e
      rw [loadAll_other _ _ _ hn.1, get_put_same]
      rfl
    · have hk : d.key ≠ d0.key := by
        intro e2
        exact hn.1 (e2 ▸ List.mem_map_of_mem e)
      rw [ih _ hn.2 e]
      unfold loaded
      rw [get_put_other _ _ _ _ hk]

theorem view_modeStart (hn : (c.devs.map (·.key)).Nodup) {i : Nat} (hi : i < s.players.length)
    {d : Dev} (hd : d ∈ c.devs) : view (modeStart c s i) d = some (loaded d (varsOf s i)) := by
  simp only [view, varsOf, modeStart, modify_eq, getD_modify_self hi]
  exact loadAll_get _ _ hn d hd

/-- a held stop belongs to a running mode; a ball end only waits behind a held stop -/
def HoldInv (s : St) : Prop := (s.hold = true → s.dev ≠ none) ∧ (s.ending = true → s.hold = true)

theorem WritesAt.holdInv {s s' : St} {i : Nat} (w : WritesAt s i s') (h : HoldInv s) : HoldInv s' := by
  obtain ⟨f, ls, m, rfl⟩ := w
  exact h

theorem holdInv_of_off {s : St} (hh : s.hold = false) (he : s.ending = false) : HoldInv s :=
  ⟨fun h => Bool.noConfusion (hh.symm.trans h), fun h => Bool.noConfusion (he.symm.trans h)⟩

@[simp] theorem drainStep_keeps : (drainStep c s).1.hold = s.hold ∧
    (drainStep c s).1.ending = s.ending ∧ (drainStep c s).1.machine = s.machine := by
  rcases drainStep_cases c s with ⟨-, e⟩ | e | ⟨i, k, v, -, -, -, e⟩ <;> rw [e] <;> simp

theorem holdInv_step (op : Op) (h : HoldInv s) : HoldInv (step c s op).1 := by
  have hoff : s.hold = false → s.ending = false := fun hh =>
    eq_false_of_ne_true fun he => Bool.noConfusion (hh.symm.trans (h.2 he))
  by_cases hl : op.local = true
  · obtain ⟨i, -, w⟩ := step_local c s hl
    exact w.holdInv h
  cases op with
  | startGame =>
    simp only [step]
    split
    · exact h
    · exact holdInv_of_off (by simp [turnStart_eq]) (by simp [turnStart_eq])
  | addPlayer => exact refusedOr h fun _ => h
  | drain =>
    rcases drain_cases c s with ⟨hh, e⟩ | ⟨hh, e⟩ <;> rw [e]
    · exact ⟨h.1, fun _ => hh⟩
    · exact holdInv_of_off (by simp [hh]) (by simp [hoff hh])
  | endGame => exact holdInv_of_off rfl rfl
  | modeStop => exact refusedOr h fun hh => holdInv_of_off (eq_false_of_ne_true hh) (hoff (eq_false_of_ne_true hh))
  | modeStopHold =>
    simp only [step]
    split
    · exact h
    · next p hp => exact ⟨fun _ => by simp [hp], fun _ => rfl⟩
  | release =>
    rcases release_cases c s with e | e | e <;> rw [e]
    · exact h
    · exact holdInv_of_off rfl rfl
    · exact holdInv_of_off (by simp) (by simp)
  | modeStart =>
    rcases modeStart_cases c s with e | e <;> rw [e]
    · exact h
    · exact ⟨fun _ => by simp, h.2⟩
  | drainPre =>
    rcases drainPre_cases c s with ⟨hh, e⟩ | ⟨hh, e | ⟨v, e⟩ | e | ⟨i, v, -, -, e⟩⟩ <;> rw [e]
    · exact ⟨h.1, fun _ => hh⟩
    · exact h
    · exact ⟨fun _ => by simp, by simpa using h.2⟩
    · exact holdInv_of_off hh (hoff hh)
    · exact holdInv_of_off (by simpa using hh) (by simpa using hoff hh)
  | _ => exact absurd rfl hl

variable {devs : List Dev} {d : Dev} {m : Vars} {ls : List Loc} {num n : Nat} {k : String} {v : Val}

theorem setVar_num : ∀ e ∈ (setVar m num k v).2, e.num = num := by
  unfold setVar
  dsimp only
  split
  · simp
  · exact List.forall_mem_nil _

theorem devEv_num : ∀ e ∈ devEv d m num v, e.num = num := by
  unfold devEv
  split
  · exact setVar_num
  · exact List.forall_mem_nil _

theorem loadEvs_num : ∀ e ∈ loadEvs devs num m, e.num = num := by
  induction devs generalizing m with
  | nil => exact List.forall_mem_nil _
  | cons d r ih => exact List.forall_mem_append.mpr ⟨devEv_num, ih⟩

theorem tickEvs_num : ∀ e ∈ tickEvs devs num ls m, e.num = num := by
  induction devs generalizing ls m with
  | nil => exact List.forall_mem_nil _
  | cons d r ih =>
    unfold tickEvs
    split
    · exact List.forall_mem_append.mpr ⟨devEv_num, ih⟩
    · exact ih

theorem elapseEvs_num : ∀ e ∈ elapseEvs devs num n ls m, e.num = num := by
  induction n generalizing ls m with
  | zero => exact List.forall_mem_nil _
  | succ n ih => exact List.forall_mem_append.mpr ⟨tickEvs_num, ih⟩

theorem drainStep_num : ∀ e ∈ (drainStep c s).2, e.num = (drainStep c s).1.cur + 1 := by
  rcases drainStep_cases c s with ⟨-, h⟩ | h | ⟨i, k, v, -, -, -, h⟩ <;> rw [h]
  · exact List.forall_mem_nil _
  · exact List.forall_mem_nil _
  · rw [handTo_cur]
    refine List.forall_mem_append.mpr ⟨setVar_num, ?_⟩
    unfold ballStartEvs
    split
    · exact loadEvs_num
    · exact List.forall_mem_nil _

end MpfVerif.Player
