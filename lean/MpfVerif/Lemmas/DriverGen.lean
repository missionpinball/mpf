import MpfVerif.Model.DriverGen
import MpfVerif.Lemmas.PyEff
import MpfVerif.Lemmas.DriverCmds
/-!
# The hand model of the driver requests does what the generated programs do (C08)

One lemma per translated method of `Gen/DriverOps.lean`: folding the effects of a run of the generated program over the
timers and the command list gives exactly what the hand function of `Model/Driver.lean` computes (`genK … = handK …`).
A program is stepped through against the hand function: `genK_callPure` pairs a `callPure` statement with one `>>=`,
`genK_ifThen` an `if` with a branch on the same condition, `genK_call_tail` a call in tail position with the callee's lemma.
Assumed: durations come back from the verify functions as ints (`VerifySound`), the platform's `max_pulse` is a number,
`max_hold_duration` is a number or None (what config validation returns).
-/
namespace MpfVerif.C08
open MpfVerif.Py MpfVerif.Driver MpfVerif.Gen.DriverOps

/-- hand result seen from an accumulated command list -/
def handK (s : Driver.St) (cmds0 : List Cmd) : Except Err (Driver.St × List Cmd) → Bool × Obs
  | .ok (s', cmds) => (true, ⟨s'.timedDisable, s'.limitDue, cmds0 ++ cmds.map Cmd.obs, s'.pend, false⟩)
  | .error _ => (false, ⟨s.timedDisable, s.limitDue, cmds0, s.pend, false⟩)

def outOk : Except Err Out → Bool
  | .ok _ => true | .error _ => false

def genK (s : Driver.St) (cmds0 : List Cmd) (r : List Eff × Except Err Out) : Bool × Obs :=
  (outOk r.2, r.1.foldl (applyEff s.now) ⟨s.timedDisable, s.limitDue, cmds0, s.pend, false⟩)

def NumOrNone (v : PyVal) : Prop := v = .none ∨ v.num.isSome = true

/-- the PSU answers `w` to `get_wait_time_for_pulse` -/
def PsuAnswers (ora : Oracle) (w : PyVal) : Prop := ∀ args, ora ⟨"psu", "get_wait_time_for_pulse", args⟩ = w

theorem num_int (a : Int) : (PyVal.int a).num = some (some (a * 1000000)) := rfl
theorem num_bool (b : Bool) : (PyVal.bool b).num = some (some (if b then 1000000 else 0)) := rfl

theorem num_flt (m : Int) : (PyVal.flt m).num = some (some m) := rfl
theorem num_nan : PyVal.nan.num = some none := rfl

variable {c : Ctx} {ora : Oracle} {s : Driver.St} {cmds0 : List Cmd} {l : Locals} {rest : List ESt}

attribute [local simp] outOk Cmd.obs applyEff setTimer addPend

theorem gen_callE (prog : List ESt) (args : List (String × PyVal)) :
    gen s (callE c ora prog args) = genK s [] (execEL c ora (argLocals args) [] prog) := by
  unfold gen callE genK
  rcases execEL c ora (argLocals args) [] prog with ⟨L, _ | _ | _⟩ <;> rfl

theorem refines_of_run {prog args r} (h : genK s [] (execEL c ora (argLocals args) [] prog) = handK s [] r) :
    hand s r = gen s (callE c ora prog args) := by
  rw [gen_callE, h]
  rcases r with _ | ⟨s', cmds⟩ <;> simp [hand, handK]

theorem genK_callPure {t prog k x a} {f : PyVal → Except Err (Driver.St × List Cmd)} (hx : l x = a)
    (h : ∀ v, call c prog [(k, a)] = .ok v →
      genK s cmds0 (execEL c ora (bindTarget l t v) [] rest) = handK s cmds0 (f v)) :
    genK s cmds0 (execEL c ora l [] (.callPure t prog [(k, .pure (.var x))] :: rest)) =
      handK s cmds0 (call c prog [(k, a)] >>= f) := by
  subst hx
  simp only [pyeval]
  cases hc : call c prog [(k, l x)] with
  | error e => rfl
  | ok v => exact h v hc

theorem genK_ifThen {cd body orelse} {r : Except Err Bool} {f : Bool → Except Err (Driver.St × List Cmd)}
    (hcd : evalC c l cd = r)
    (ht : genK s cmds0 (execEL c ora l [] (body ++ rest)) = handK s cmds0 (f true))
    (hf : genK s cmds0 (execEL c ora l [] (orelse ++ rest)) = handK s cmds0 (f false)) :
    genK s cmds0 (execEL c ora l [] (.ifThen cd body orelse :: rest)) = handK s cmds0 (r >>= f) := by
  rw [execEL_ifThen, hcd]
  rcases r with e | _ | _
  · rfl
  · exact hf
  · exact ht

/-- what `_notify_psu_and_get_wait_ms(pulse_ms, max_wait_ms)` returns -/
def psuWait (ora : Oracle) (pm mw : PyVal) : PyVal :=
  if mw = .none then .int 0 else ora ⟨"psu", "get_wait_time_for_pulse", [("pulse_ms", pm), ("max_wait_ms", mw)]⟩

theorem notify_exec (l : Locals) (log : List Eff) : ∃ e,
    execEL c ora l log p_notify_psu_and_get_wait_ms =
      (log ++ [e], .ok (.done (psuWait ora (l "pulse_ms") (l "max_wait_ms")))) ∧ e.obj = "psu" := by
  unfold p_notify_psu_and_get_wait_ms psuWait
  rw [execEL_ifThen]
  by_cases h : l "max_wait_ms" = .none <;> simp [pyeval, h]

theorem genK_call_notify {t X pm mw} (hpm : evalA c l X = .ok pm) (hmw : l "max_wait_ms" = mw) :
    genK s cmds0 (execEL c ora l []
        (.call t p_notify_psu_and_get_wait_ms [("pulse_ms", X), ("max_wait_ms", .pure (.var "max_wait_ms"))] :: rest)) =
      genK s cmds0 (execEL c ora (bindTarget l t (psuWait ora pm mw)) [] rest) := by
  obtain ⟨e, hx, he⟩ := notify_exec (c := c) (ora := ora) (argLocals [("pulse_ms", pm), ("max_wait_ms", mw)]) []
  simp [pyeval, execEL_call, hpm, hmw, hx]
  -- the callee ran from the empty log; `execEL_frame` moves its PSU call out of the way, and `applyEff` ignores it
  rw [execEL_frame c ora rest _ [e]]
  simp [pyeval, genK, he]

theorem genK_call_tail {t prog args vs} (hargs : evalArgs c l args = .ok vs)
    (hrest : ∀ l' log, ∃ out, execEL c ora l' log rest = (log, .ok out)) :
    genK s cmds0 (execEL c ora l [] (.call t prog args :: rest)) = genK s cmds0 (execEL c ora (argLocals vs) [] prog) := by
  simp only [execEL_call, hargs]
  rcases execEL c ora (argLocals vs) [] prog with ⟨L, e | l1 | v⟩
  · rfl
  · obtain ⟨out, h⟩ := hrest (bindTarget l t .none) L
    simp only [h]
    rfl
  · obtain ⟨out, h⟩ := hrest (bindTarget l t v) L
    simp only [h]
    rfl

theorem timed_enable_run (hv : VerifySound c) (l : Locals) :
    genK s cmds0 (execEL c ora l [] timed_enable) =
      handK s cmds0 (doTimedEnable c s (l "timed_enable_ms") (l "hold_power") (l "pulse_ms") (l "pulse_power")) := by
  unfold timed_enable doTimedEnable
  refine genK_callPure rfl fun pd h1 => ?_
  refine genK_callPure (by simp [pyeval]) fun pp h2 => ?_
  refine genK_callPure (by simp [pyeval]) fun hd h3 => ?_
  refine genK_callPure (by simp [pyeval]) fun hp h4 => ?_
  obtain ⟨sum, hsum⟩ := arith_isInt false (hv.ms _ _ h1).1 (hv.te _ _ h3).1
  rw [genK_call_notify (pm := sum) (by simp [pyeval, hsum]) rfl]
  simp [pyeval, genK, handK]

theorem disable_run (c : Ctx) (ora : Oracle) (s : Driver.St) (l : Locals) (cmds0 : List Cmd) :
    genK s cmds0 (execEL c ora l [] disable) = handK s cmds0 (.ok (doDisable s)) := by
  simp [pyeval, disable, doDisable, genK, handK]

theorem delayMs_of_isInt {v : PyVal} (h : v.isInt = true) : delayMs v = msOf v := by
  rcases isInt_cases h with ⟨i, rfl⟩ | rfl | rfl <;> rfl

theorem pulse_now_run (hv : VerifySound c) (hmax : (c.env "max_pulse").num.isSome = true) (l : Locals)
    (hpm : (l "pulse_ms").isInt = true) :
    genK s cmds0 (execEL c ora l [] p_pulse_now) = handK s cmds0 (pulseNow c s (l "pulse_ms") (l "pulse_power")) := by
  unfold p_pulse_now pulseNow
  refine genK_ifThen (r := .ok _) (f := fun b => if b then _ else _) rfl ?_ ?_
  · refine (genK_call_tail rfl fun _ _ => ⟨_, rfl⟩).trans ?_
    simpa [pyeval] using timed_enable_run hv (argLocals [("pulse_ms", l "pulse_ms"), ("pulse_power", l "pulse_power")])
  · -- neither comparison raises on an int and a number, so Python's short-circuit `and` is the model's `&&`
    obtain ⟨a, ha⟩ := pyCmp_num (op := "<") (a := .int 0) rfl (num_of_isInt hpm)
    obtain ⟨b, hb⟩ := pyCmp_num (op := "<=") (num_of_isInt hpm) hmax
    rw [ha, hb]
    refine genK_ifThen (r := .ok (a && b)) (f := fun b => if b then _ else _)
      (by cases a <;> simp [pyeval, ha, hb]) ?_ ?_
    · simp [pyeval, genK, handK]
    · simp [pyeval, genK, handK, delayMs_of_isInt hpm]

/-- `max_hold_duration * 1000` as the delay manager reads it is the model's `secsToMs` -/
theorem limit_delay {md : PyVal} (h : NumOrNone md) (ht : md.truthy = true) :
    ∃ v, arith true md (.int 1000) = .ok v ∧ delayMs v = secsToMs md := by
  cases md with
  | none => simp [PyVal.truthy] at ht
  | str x => simp [NumOrNone, PyVal.num] at h
  | bool b =>
    cases b
    · simp [PyVal.truthy] at ht
    · exact ⟨_, rfl, rfl⟩
  | int i => exact ⟨_, rfl, rfl⟩
  | nan => exact ⟨_, rfl, rfl⟩
  | flt m =>
    refine ⟨_, rfl, ?_⟩
    show (m * (1000 * 1000000) / 1000000 / 1000000).toNat = (m / 1000).toNat
    congr 1
    omega

theorem enable_now_run (hmd : NumOrNone (c.cfg "max_hold_duration")) (l : Locals) :
    genK s cmds0 (execEL c ora l [] p_enable_now) =
      handK s cmds0 (.ok (enableNow c s (l "pulse_ms") (l "pulse_power") (l "hold_power"))) := by
  unfold p_enable_now enableNow
  simp only [pyeval]
  rw [execEL_ifThen]
  cases ht : (c.cfg "max_hold_duration").truthy
  · simp [pyeval, ht, genK, handK]
  · obtain ⟨v, hv, hd⟩ := limit_delay hmd ht
    cases hl : s.limitDue <;> simp [pyeval, ht, hv, hd, hl, genK, handK]

theorem psuWait_eq {mw w : PyVal} (hw : mw = .none ∨ PsuAnswers ora w) (pm : PyVal) : psuWait ora pm mw = waitOf mw w := by
  unfold psuWait waitOf
  rcases hw with rfl | hw
  · rfl
  · rw [hw]

theorem doOp_pulse (c : Ctx) (s : Driver.St) (ms pw w : PyVal) :
    doOp c s (.pulse ms pw) = doOp c s (.pulseW ms pw .none w) := by
  simp [pyeval, doOp, waitOf, show pyCmp ">" (.int 0) (.int 0) = .ok false from rfl]

theorem doOp_enable (c : Ctx) (s : Driver.St) (ms pw hp w : PyVal) :
    doOp c s (.enable ms pw hp) = doOp c s (.enableW ms pw hp .none w) := by
  simp [pyeval, doOp, waitOf, show pyCmp ">" (.int 0) (.int 0) = .ok false from rfl]

theorem pulse_run (hv : VerifySound c) (hmax : (c.env "max_pulse").num.isSome = true) (l : Locals) {w : PyVal}
    (hw : l "max_wait_ms" = .none ∨ PsuAnswers ora w) :
    genK s cmds0 (execEL c ora l [] pulse) =
      handK s cmds0 (doOp c s (.pulseW (l "pulse_ms") (l "pulse_power") (l "max_wait_ms") w)) := by
  unfold pulse
  simp only [doOp]
  refine genK_callPure rfl fun pm h1 => ?_
  refine genK_callPure (by simp [pyeval]) fun pp h2 => ?_
  rw [genK_call_notify (pm := pm) (mw := l "max_wait_ms") (by simp [pyeval]) (by simp [pyeval]), psuWait_eq hw]
  refine genK_ifThen (by simp [pyeval]) ?_ ?_
  · simp [pyeval, genK, handK]
  · refine (genK_call_tail rfl fun _ _ => ⟨_, rfl⟩).trans ?_
    simpa [pyeval] using pulse_now_run hv hmax (argLocals [("pulse_ms", pm), ("pulse_power", pp)]) (by simpa [pyeval] using (hv.ms _ _ h1).1)

theorem enable_run (hmd : NumOrNone (c.cfg "max_hold_duration")) (l : Locals) {w : PyVal}
    (hw : l "max_wait_ms" = .none ∨ PsuAnswers ora w) :
    genK s cmds0 (execEL c ora l [] enable) =
      handK s cmds0 (doOp c s (.enableW (l "pulse_ms") (l "pulse_power") (l "hold_power") (l "max_wait_ms") w)) := by
  unfold enable
  simp only [doOp]
  refine genK_callPure rfl fun pm h1 => ?_
  rw [genK_call_notify (pm := pm) (mw := l "max_wait_ms") (by simp [pyeval]) (by simp [pyeval]), psuWait_eq hw]
  refine genK_callPure (by simp [pyeval]) fun pp h2 => ?_
  refine genK_callPure (by simp [pyeval]) fun hp h3 => ?_
  refine genK_ifThen (by simp [pyeval]) (by simp [pyeval, genK, handK]) ?_
  refine genK_ifThen (by simp [pyeval]) ?_ ?_
  · simp [pyeval, genK, handK]
  · refine (genK_call_tail rfl fun _ _ => ⟨_, rfl⟩).trans ?_
    simpa [pyeval] using enable_now_run hmd (argLocals [("pulse_ms", pm), ("pulse_power", pp), ("hold_power", hp)])

theorem limit_reached_run (l : Locals) :
    genK s cmds0 (execEL c ora l [] p_enable_limit_reached) = handK s cmds0 (.ok (doDisable s)) := by
  simp [pyeval, p_enable_limit_reached, disable, doDisable, genK, handK, execEL_call]

theorem gen_event {prog args vs vs'} (h : evalArgs c (argLocals vs') args = .ok vs) :
    gen s (callE c ora [.call none prog args] vs') = gen s (callE c ora prog vs) := by
  rw [gen_callE, gen_callE, genK_call_tail h fun _ _ => ⟨_, rfl⟩]

end MpfVerif.C08
