import Lean.Meta.Tactic.Simp.RegisterCommand

/-- equations that evaluate expressions and straight-line statements of `Model/PyExec.lean` / `Model/PyEff.lean` -/
register_simp_attr pyeval
