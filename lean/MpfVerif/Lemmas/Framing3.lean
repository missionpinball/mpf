import MpfVerif.Model.Framing3
import MpfVerif.Lemmas.Framing
namespace MpfVerif.Framing3
open MpfVerif.Framing MpfVerif.Framing2

def nbits (m : Bool) : Nat := if m then 64 else 32

theorem byteBits_length (b : Nat) : (byteBits b).length = 8 := by simp [byteBits]

theorem beBits_length (l : Bytes) : (beBits l).length = 8 * l.length := by
  induction l with
  | nil => rfl
  | cons b r ih => rw [beBits, List.length_append, ih, byteBits_length, List.length_cons]; omega

theorem decode_good_length (f : Bytes) (m : Bool) (a : Nat) (b : List Bool) (h : decode f = .good m a b) :
    b.length = nbits m := by
  unfold decode at h
  split at h
  · split at h
    · split at h
      · injection h with h1 h2 h3; subst h1 h3; exact beBits_length _
      · cases h
    · cases h
  · split at h
    · split at h
      · injection h with h1 h2 h3; subst h1 h3; exact beBits_length _
      · cases h
    · cases h
  · cases h

/-- MPF's state of every input is the complement of the card's `old_state` bit, and `old_state` has the card's width -/
def Mirror (cs : List OCard) : Prop :=
  ∀ c ∈ cs, ∃ o, c.old = some o ∧ c.sw = o.map (!·) ∧ o.length = nbits c.mtx

def LenOk (cs : List OCard) : Prop := ∀ c ∈ cs, ∀ o, c.old = some o → o.length = nbits c.mtx

theorem oldOf_setInit (m' : Bool) (a' : Nat) (b : List Bool) (m : Bool) (a : Nat) (cs : List OCard) :
    oldOf m a (setInit m' a' b cs) =
      if m' = m ∧ a' = a then (oldOf m a cs).map (fun _ => some b) else oldOf m a cs := by
  induction cs with
  | nil => simp [setInit, oldOf]
  | cons c r ih =>
    unfold setInit
    by_cases h : c.mtx = m' ∧ c.addr = a'
    · rw [if_pos h]
      obtain ⟨rfl, rfl⟩ := h
      by_cases g : c.mtx = m ∧ c.addr = a <;> simp [oldOf, g]
    · rw [if_neg h]
      by_cases g : c.mtx = m ∧ c.addr = a
      · have ng : ¬ (m' = m ∧ a' = a) := fun ⟨x, y⟩ => h ⟨g.1.trans x.symm, g.2.trans y.symm⟩
        simp [oldOf, g, ng]
      · simp only [oldOf, g, if_false]
        exact ih

theorem lenOk_setInit (m : Bool) (a : Nat) (b : List Bool) (hb : b.length = nbits m) (cs : List OCard) (h : LenOk cs) :
    LenOk (setInit m a b cs) := by
  induction cs with
  | nil => exact h
  | cons c r ih =>
    obtain ⟨hc, hr⟩ := List.forall_mem_cons.mp h
    unfold setInit
    split
    · rename_i g
      exact List.forall_mem_cons.mpr ⟨fun o ho => by cases ho; rw [g.1]; exact hb, hr⟩
    · exact List.forall_mem_cons.mpr ⟨hc, ih hr⟩

theorem oldOf_setSteady (m' : Bool) (a' : Nat) (b : List Bool) (m : Bool) (a : Nat) (cs : List OCard)
    (hm : Mirror cs) : oldOf m a (setSteady m' a' b cs).1 = oldOf m a (setInit m' a' b cs) := by
  induction cs with
  | nil => rfl
  | cons c r ih =>
    obtain ⟨⟨o, ho, _⟩, hr⟩ := List.forall_mem_cons.mp hm
    unfold setSteady setInit
    split
    · rw [ho]
      rfl
    · simp only [oldOf, ih hr]

theorem mirror_setSteady (m : Bool) (a : Nat) (b : List Bool) (hb : b.length = nbits m) (cs : List OCard)
    (h : Mirror cs) : Mirror (setSteady m a b cs).1 := by
  induction cs with
  | nil => exact h
  | cons c r ih =>
    obtain ⟨⟨o, ho, hsw, hlen⟩, hr⟩ := List.forall_mem_cons.mp h
    unfold setSteady
    split
    · rename_i g
      rw [ho]
      exact List.forall_mem_cons.mpr
        ⟨⟨b, rfl, updSw_follows o b c.sw (by rw [hlen, hb, g.1]) hsw, by rw [g.1]; exact hb⟩, hr⟩
    · exact List.forall_mem_cons.mpr ⟨⟨o, ho, hsw, hlen⟩, ih hr⟩

theorem steadyFrame_spec (c : ChainSt) (f : Bytes) (m : Bool) (a : Nat) (h : Mirror c.cards) :
    oldOf m a (steadyFrame c f).1.cards = (oldOf m a c.cards).map (fun o => lastGood m a o [f]) ∧
    Mirror (steadyFrame c f).1.cards := by
  unfold steadyFrame
  cases hd : decode f with
  | good m' a' b =>
    refine ⟨?_, mirror_setSteady m' a' b (decode_good_length f m' a' b hd) _ h⟩
    simp only [oldOf_setSteady m' a' b m a c.cards h, oldOf_setInit, lastGood, hd]
    split <;> simp
  | badCrc => exact ⟨by simp [lastGood, hd], h⟩
  | other => exact ⟨by simp [lastGood, hd], h⟩

theorem lastGood_cons (m : Bool) (a : Nat) (cur : Option (List Bool)) (f : Bytes) (r : List Bytes) :
    lastGood m a cur (f :: r) = lastGood m a (lastGood m a cur [f]) r := by
  simp only [lastGood]
  cases decode f with
  | good m' a' b => by_cases g : m' = m ∧ a' = a <;> simp [g]
  | badCrc => rfl
  | other => rfl

theorem steadyFrames_spec (fs : List Bytes) : ∀ (c : ChainSt) (m : Bool) (a : Nat), Mirror c.cards →
    oldOf m a (steadyFrames c fs).1.cards = (oldOf m a c.cards).map (fun o => lastGood m a o fs) ∧
    Mirror (steadyFrames c fs).1.cards := by
  induction fs with
  | nil => intro c m a h; exact ⟨by simp [steadyFrames, lastGood], h⟩
  | cons f r ih =>
    intro c m a h
    obtain ⟨h1, h2⟩ := steadyFrame_spec c f m a h
    obtain ⟨h3, h4⟩ := ih (steadyFrame c f).1 m a h2
    refine ⟨?_, h4⟩
    show oldOf m a (steadyFrames (steadyFrame c f).1 r).1.cards = _
    rw [h3, h1, Option.map_map]
    congr 1
    funext o
    exact (lastGood_cons m a o f r).symm

theorem initFrame_spec (c : ChainSt) (f : Bytes) (m : Bool) (a : Nat) :
    oldOf m a (initFrame c f).cards = (oldOf m a c.cards).map (fun o => lastGood m a o [f]) := by
  unfold initFrame
  cases hd : decode f with
  | good m' a' b =>
    simp only [oldOf_setInit, lastGood, hd]
    split <;> simp
  | badCrc => simp [lastGood, hd]
  | other => simp [lastGood, hd]

theorem initFrames_spec (fs : List Bytes) : ∀ (c : ChainSt) (m : Bool) (a : Nat),
    oldOf m a (fs.foldl initFrame c).cards = (oldOf m a c.cards).map (fun o => lastGood m a o fs) := by
  induction fs with
  | nil => intro c m a; simp [lastGood]
  | cons f r ih =>
    intro c m a
    rw [List.foldl_cons, ih, initFrame_spec, Option.map_map]
    congr 1
    funext o
    exact (lastGood_cons m a o f r).symm

theorem initFrame_lenOk (c : ChainSt) (f : Bytes) (h : LenOk c.cards) : LenOk (initFrame c f).cards := by
  unfold initFrame
  cases hd : decode f with
  | good m a b => exact lenOk_setInit m a b (decode_good_length f m a b hd) _ h
  | badCrc => exact h
  | other => exact h

theorem initFrames_lenOk (fs : List Bytes) : ∀ c : ChainSt, LenOk c.cards → LenOk (fs.foldl initFrame c).cards := by
  induction fs with
  | nil => intro c h; exact h
  | cons f r ih => intro c h; rw [List.foldl_cons]; exact ih _ (initFrame_lenOk c f h)

theorem hwCards_spec (cs : List OCard) : ∀ cs', hwCards cs = some cs' → LenOk cs →
    Mirror cs' ∧ ∀ m a, oldOf m a cs' = oldOf m a cs := by
  induction cs with
  | nil => intro cs' h _; cases h; exact ⟨nofun, fun _ _ => rfl⟩
  | cons c r ih =>
    intro cs' h hl
    obtain ⟨hc, hr⟩ := List.forall_mem_cons.mp hl
    unfold hwCards hwCard at h
    cases ho : c.old with
    | none => simp [ho] at h
    | some o =>
      cases hrr : hwCards r with
      | none => simp [ho, hrr] at h
      | some r' =>
        simp only [ho, hrr, Option.map_some, Option.some.injEq] at h
        subst h
        obtain ⟨ihm, iho⟩ := ih r' hrr hr
        exact ⟨List.forall_mem_cons.mpr ⟨⟨o, rfl, rfl, hc o ho⟩, ihm⟩, fun m a => by simp only [oldOf, iho, ho]⟩

theorem steadyFrame_ps (c : ChainSt) (p : PSt) (f : Bytes) :
    steadyFrame { c with ps := p } f = ({ (steadyFrame c f).1 with ps := p }, (steadyFrame c f).2) := by
  unfold steadyFrame
  cases decode f <;> rfl

theorem steadyFrames_ps (fs : List Bytes) : ∀ (c : ChainSt) (p : PSt),
    steadyFrames { c with ps := p } fs = ({ (steadyFrames c fs).1 with ps := p }, (steadyFrames c fs).2) := by
  induction fs with
  | nil => intro c p; rfl
  | cons f r ih => intro c p; simp only [steadyFrames]; rw [steadyFrame_ps c p f, ih (steadyFrame c f).1 p]

theorem steadyFrames_append (xs : List Bytes) : ∀ (c : ChainSt) (ys : List Bytes),
    steadyFrames c (xs ++ ys) = ((steadyFrames (steadyFrames c xs).1 ys).1,
      (steadyFrames c xs).2 ++ (steadyFrames (steadyFrames c xs).1 ys).2) := by
  induction xs with
  | nil => intro c ys; rfl
  | cons f r ih => intro c ys; simp only [List.cons_append, steadyFrames, ih, List.append_assoc]

theorem steadyFrames_ps_id (fs : List Bytes) : ∀ c : ChainSt, (steadyFrames c fs).1.ps = c.ps := by
  induction fs with
  | nil => intro c; rfl
  | cons f r ih =>
    intro c
    simp only [steadyFrames]
    rw [ih]
    unfold steadyFrame
    cases decode f <;> rfl

/-- the chunked reader = the frame handlers run over the frames `_parse_msg` cuts out of the chunk list -/
theorem steadyReads_eq (ks : List Bytes) : ∀ c : ChainSt,
    steadyReads c ks = ({ (steadyFrames c (parseChunks c.ps ks).2).1 with ps := (parseChunks c.ps ks).1 },
      (steadyFrames c (parseChunks c.ps ks).2).2) := by
  induction ks with
  | nil => intro c; rfl
  | cons k r ih =>
    intro c
    simp only [steadyReads, steadyRead, parseChunks]
    rw [steadyFrames_ps _ c, ih, steadyFrames_ps, steadyFrames_append]

theorem modChain_other (i j : Nat) (f : ChainSt → ChainSt × List OEv) (s : OSt) (h : i ≠ j) :
    (modChain i f s).1.chains[j]? = s.chains[j]? := by
  unfold modChain
  cases hc : s.chains[i]? with
  | none => rfl
  | some c => simp only; exact List.getElem?_set_ne h

theorem spanDig_append (r : Bytes) : (spanDig r).1 ++ (spanDig r).2 = r := by
  induction r with
  | nil => rfl
  | cons b t ih =>
    unfold spanDig
    split
    · simp [ih]
    · simp

theorem spanDig_digits (r : Bytes) : ∀ x ∈ (spanDig r).1, isDig x = true := by
  induction r with
  | nil => intro x hx; simp [spanDig] at hx
  | cons b t ih =>
    intro x hx
    unfold spanDig at hx
    split at hx
    · rcases List.mem_cons.mp hx with rfl | h
      · assumption
      · exact ih x h
    · simp at hx

theorem fwCheck_eq (f : Bytes) (ok r : CRes) (h : fwCheck f ok = r) (h1 : r ≠ .valErr) (h2 : r ≠ .assert_) :
    ok = r ∧ 2 ≤ f.length := by
  unfold fwCheck at h
  replace h := of_ite_eq h
  rcases h with ⟨-, h⟩ | ⟨hlen, h⟩
  · exact absurd h.symm h1
  replace h := of_ite_eq h
  rcases h with ⟨-, h⟩ | ⟨-, h⟩
  · exact absurd h.symm h2
  · exact ⟨h, by omega⟩

end MpfVerif.Framing3
