import MpfVerif.Model.Writer
/-! Invariants of the C15 writer model. -/
namespace MpfVerif.Writer

theorem run_induction {P : St → Prop} (ops : List Op) {s : St} (h0 : P s)
    (hstep : ∀ s o, o ∈ ops → P s → P (step s o)) : P (run s ops) := by
  induction ops generalizing s with
  | nil => exact h0
  | cons o r ih =>
    exact ih (hstep s o List.mem_cons_self h0) fun s o ho => hstep s o (List.mem_cons_of_mem _ ho)

/-- `x` is the start-up content or one of the values `saved` that were handed to `save_all` -/
def Known (saved : List Nat) (x : Nat) : Prop := x = 0 ∨ x ∈ saved

theorem Known.cons {saved : List Nat} {x : Nat} (d : Nat) (h : Known saved x) : Known (d :: saved) x :=
  h.imp id (List.mem_cons_of_mem _)

/-- everything the thread can ever put on disk is a known value -/
def Safe (s : St) : Prop :=
  Known s.saved s.disk ∧ Known s.saved s.data ∧ Known s.saved s.loc ∧ ∀ v, s.tmp = some v → Known s.saved v

theorem safe_step (s : St) (o : Op) (h : Safe s) : Safe (step s o) := by
  -- with `pc` a constructor, `step` and the invariants reduce by `rfl`; `cases h : s.pc` and `simp` cost tenfold
  obtain ⟨data, dirty, stop, busy, disk, tmp, loc, pc, saved⟩ := s
  have ⟨hdisk, hdata, hloc, htmp⟩ := h
  cases o with
  | save d => exact ⟨hdisk.cons d, Or.inr List.mem_cons_self, hloc.cons d, fun v hv => (htmp v hv).cons d⟩
  | shutdown | crash => exact h
  | step =>
    cases pc
    case cpy | fcpy => exact ⟨hdisk, hdata, hdata, htmp⟩
    case wr | fwr => exact ⟨hdisk, hdata, hloc, fun v hv => Option.some.inj hv ▸ hloc⟩
    case ren | fren =>
      exact ⟨match tmp, htmp with | none, _ => hdisk | some v, ht => ht v rfl, hdata, hloc, nofun⟩
    all_goals exact h
  | fail =>
    cases pc
    case wr | fwr => exact ⟨hdisk, hdata, hloc, nofun⟩
    all_goals exact h

theorem safe_run (ops : List Op) {s : St} (h : Safe s) : Safe (run s ops) :=
  run_induction ops h fun s o _ => safe_step s o

/-- the values handed to `save_all` in an op sequence -/
def savesOf : List Op → List Nat
  | [] => []
  | .save d :: r => d :: savesOf r
  | _ :: r => savesOf r

theorem run_saves (ops : List Op) (s : St) :
    (run s ops).saved = (savesOf ops).reverse ++ s.saved ∧ (run s ops).data = (savesOf ops).getLast?.getD s.data := by
  induction ops generalizing s with
  | nil => exact ⟨rfl, rfl⟩
  | cons o r ih =>
    have ih := ih (step s o)
    obtain ⟨data, dirty, stop, busy, disk, tmp, loc, pc, saved⟩ := s
    cases o
    case save d =>
      rw [savesOf, List.getLast?_cons, List.reverse_cons, List.append_assoc]
      exact ih
    case step | fail =>
      cases pc <;> exact ih
    all_goals exact ih

/-! ## fault-free runs: nothing is lost -/

def Good (s : St) : Prop :=
  match s.pc with
  | .s0 | .chk | .wait | .slp | .fchk | .done => s.busy = false ∧ (s.dirty = false → s.disk = s.data)
  | .spin | .clr | .cpy | .fspin | .fclr | .fcpy => s.busy = false
  | .wr | .fwr => s.busy = true ∧ (s.dirty = false → s.loc = s.data)
  | .ren | .fren => s.busy = true ∧ s.tmp = some s.loc ∧ (s.dirty = false → s.loc = s.data)
  | .dead => False

theorem good_step (s : St) (o : Op) (hf : isFault o = false) (h : Good s) : Good (step s o) := by
  obtain ⟨data, dirty, stop, busy, disk, tmp, loc, pc, saved⟩ := s
  cases o with
  | fail | crash => cases hf
  | save d =>
    -- the dirty flag is set: nothing is claimed about the value under way
    cases pc
    case s0 | chk | wait | slp | fchk | done | wr | fwr => exact ⟨h.1, nofun⟩
    case ren | fren => exact ⟨h.1, h.2.1, nofun⟩
    all_goals exact h
  | shutdown => exact h
  | step =>
    cases pc
    case chk =>
      cases stop <;> exact h
    case wait | fchk =>
      obtain ⟨rfl, hd⟩ := h
      cases dirty
      · exact ⟨rfl, hd⟩
      · exact rfl
    case spin | fspin =>
      cases h
      exact rfl
    case cpy | fcpy => exact ⟨rfl, fun _ => rfl⟩
    case wr | fwr => exact ⟨h.1, rfl, h.2⟩
    case ren | fren =>
      have ht : tmp = some loc := h.2.1
      subst ht
      exact ⟨rfl, h.2.2⟩
    all_goals exact h

theorem good_run (ops : List Op) {s : St} (h : Good s) (hf : ∀ o ∈ ops, isFault o = false) : Good (run s ops) :=
  run_induction ops h fun s o ho => good_step s o (hf o ho)

/-! ## runs with I/O errors (no crash): the busy flag is always released -/

def Sane (s : St) : Prop :=
  (match s.pc with
   | .wr | .fwr => s.busy = true
   | .ren | .fren => s.busy = true ∧ s.tmp = some s.loc
   | .dead => True
   | _ => s.busy = false) ∧
  (match s.pc with
   | .fchk | .fspin | .fclr | .fcpy | .fwr | .fren | .done | .dead => s.stop = true
   | _ => True)

theorem sane_step (s : St) (o : Op) (hc : o ≠ .crash) (h : Sane s) : Sane (step s o) := by
  obtain ⟨data, dirty, stop, busy, disk, tmp, loc, pc, saved⟩ := s
  cases o with
  | crash => exact absurd rfl hc
  | save d => exact h
  | shutdown =>
    cases pc <;> exact ⟨h.1, by trivial⟩
  | fail =>
    cases pc
    case wr | ren => exact ⟨rfl, trivial⟩
    case fwr | fren => exact ⟨trivial, h.2⟩
    all_goals exact h
  | step =>
    cases pc
    case chk =>
      cases stop <;> exact ⟨h.1, by trivial⟩
    case wait | fchk =>
      obtain ⟨rfl, hs⟩ := h
      cases dirty <;> exact ⟨rfl, hs⟩
    case spin | fspin =>
      obtain ⟨rfl, hs⟩ := h
      exact ⟨rfl, hs⟩
    case cpy | fcpy | ren | fren => exact ⟨rfl, h.2⟩
    case wr | fwr => exact ⟨⟨h.1, rfl⟩, h.2⟩
    all_goals exact h

theorem sane_run (ops : List Op) {s : St} (h : Sane s) (hc : ∀ o ∈ ops, o ≠ .crash) : Sane (run s ops) :=
  run_induction ops h fun s o ho => sane_step s o (hc o ho)

/-- `is_busy` is set exactly inside `FileManager.save` -/
def inSave : PC → Bool
  | .wr | .ren | .fwr | .fren => true
  | _ => false

def idle : PC → Bool
  | .s0 | .chk | .wait | .slp | .fchk | .done => true
  | _ => false

theorem Good.fresh {s : St} (h : Good s) (hi : idle s.pc = true) (hd : s.dirty = false) : s.disk = s.data := by
  obtain ⟨data, dirty, stop, busy, disk, tmp, loc, pc, saved⟩ := s
  cases pc
  case s0 | chk | wait | slp | fchk | done => exact h.2 hd
  all_goals cases hi

def final : PC → Bool
  | .fchk | .fspin | .fclr | .fcpy | .fwr | .fren | .done | .dead => true
  | _ => false

theorem Sane.loop {s : St} (h : Sane s) (hs : s.stop = false) : final s.pc = false := by
  obtain ⟨data, dirty, stop, busy, disk, tmp, loc, pc, saved⟩ := s
  cases pc
  case fchk | fspin | fclr | fcpy | fwr | fren | done | dead => cases hs.symm.trans h.2
  all_goals rfl

theorem Sane.busy {s : St} (h : Sane s) (hd : s.pc ≠ .dead) : s.busy = inSave s.pc := by
  obtain ⟨data, dirty, stop, busy, disk, tmp, loc, pc, saved⟩ := s
  cases pc
  case ren | fren => exact h.1.1
  case dead => exact absurd rfl hd
  all_goals exact h.1

theorem ne_dead_of_loop {pc : PC} (h : final pc = false) : pc ≠ .dead := by
  rintro rfl
  cases h

theorem good_of_save {s : St} (h : Sane s) (hs : s.stop = false) (d : Nat) : Good (step s (.save d)) := by
  have hl := h.loop hs
  obtain ⟨data, dirty, stop, busy, disk, tmp, loc, pc, saved⟩ := s
  cases pc
  case spin | clr | cpy => exact h.1
  case ren => exact ⟨h.1.1, h.1.2, nofun⟩
  case s0 | chk | wait | slp | wr => exact ⟨h.1, nofun⟩
  all_goals cases hl

/-- the control skeleton: it evolves on its own, whatever the data -/
def ctl (s : St) : PC × Bool × Bool × Bool := (s.pc, s.dirty, s.stop, s.busy)

theorem ctl_step {s t : St} (h : ctl s = ctl t) (o : Op) : ctl (step s o) = ctl (step t o) := by
  obtain ⟨_, dirty, stop, busy, _, _, _, pc, _⟩ := s
  obtain ⟨_, _, _, _, _, _, _, _, _⟩ := t
  cases h
  cases o
  case step | fail =>
    cases pc <;> rfl
  all_goals rfl

theorem ctl_run (s : St) (ops : List Op) :
    ctl (run s ops) = ctl (run { s with data := 0, disk := 0, tmp := none, loc := 0, saved := [] } ops) := by
  suffices ∀ {s t : St}, ctl s = ctl t → ctl (run s ops) = ctl (run t ops) from this rfl
  induction ops with
  | nil => exact id
  | cons o r ih => exact fun h => ih (ctl_step h o)

theorem settle {s : St} (h : Good s) (ops : List Op) (hf : ∀ o ∈ ops, isFault o = false)
    (hi : idle (run s ops).pc = true) (hd : (run s ops).dirty = false) :
    (run s ops).disk = (savesOf ops).getLast?.getD s.data :=
  ((good_run ops h hf).fresh hi hd).trans (run_saves ops s).2

end MpfVerif.Writer
