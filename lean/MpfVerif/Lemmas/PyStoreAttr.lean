import Lean.Meta.Tactic.Simp.RegisterCommand

/-- equations that run a program of `Model/PyStore.lean` (not usable in the module that declares it) -/
register_simp_attr pystore
