import MpfVerif.Lemmas.Show
/-! C17: the model's schedule is the exact rational one when the time unit is fine enough; the synchronised start. -/
namespace MpfVerif.Show

/-- index of the `k`-th scheduled step when the first one is `i` -/
def idxAt (total : Nat) : Nat → Nat → Nat
  | 0, i => i
  | k + 1, i => idxAt total k (nxt total i)

/-- sum of the (unscaled) durations of the first `k` scheduled steps from step `i` -/
def durSum (durs : List Nat) : Nat → Nat → Nat
  | 0, _ => 0
  | k + 1, i => durs.getD i 0 + durSum durs k (nxt durs.length i)

/-- the unit is fine enough for speed `num/den`: every `dur * den / num` is an integer -/
def Exact (durs : List Nat) (num den : Nat) : Prop := ∀ d ∈ durs, num ∣ d * den

theorem exactFor_iff (durs : List Nat) (num den : Nat) : exactFor durs num den = true ↔ Exact durs num den := by
  unfold exactFor Exact
  simp [List.all_eq_true, Nat.dvd_iff_mod_eq_zero]

theorem stepDur_exact (durs : List Nat) (num den i : Nat) (h : Exact durs num den) :
    stepDur durs num den i * num = durs.getD i 0 * den := by
  unfold stepDur
  apply Nat.div_mul_cancel
  by_cases hi : i < durs.length
  · apply h
    simp [List.getD, List.getElem?_eq_getElem hi]
  · simp [List.getD, List.getElem?_eq_none (Nat.le_of_not_lt hi)]

/-- the `k`-th entry of the schedule: step `idxAt k i` at a time `T` with `T * num = t * num + (Σ durations) * den`,
i.e. exactly `T = t + Σ durations / (num/den)` as a rational number — no rounding, for any speed -/
theorem sched_kth (durs : List Nat) (num den : Nat) (h : Exact durs num den) : ∀ (k n i t : Nat), k < n →
    ∃ T, (sched durs num den n i t)[k]? = some (Obs.eff (idxAt durs.length k i) T) ∧
      T * num = t * num + durSum durs k i * den := by
  intro k
  induction k with
  | zero =>
    intro n i t hk
    cases n with
    | zero => omega
    | succ n => exact ⟨t, rfl, by rw [durSum, Nat.zero_mul, Nat.add_zero]⟩
  | succ k ih =>
    intro n i t hk
    cases n with
    | zero => omega
    | succ n =>
      obtain ⟨T, h1, h2⟩ := ih n (nxt durs.length i) (t + stepDur durs num den i) (by omega)
      refine ⟨T, h1, ?_⟩
      rw [h2, Nat.add_mul, stepDur_exact durs num den i h]
      simp only [durSum, Nat.add_mul]
      omega

theorem syncTime_dvd (sync t : Nat) : sync ∣ syncTime sync t := by
  unfold syncTime
  refine ⟨t / sync + 1, ?_⟩
  have h := Nat.div_add_mod t sync
  have hm : t % sync ≤ t := Nat.mod_le t sync
  rw [Nat.mul_add, Nat.mul_one]
  omega

theorem syncTime_bounds (sync t : Nat) (hs : 0 < sync) : t < syncTime sync t ∧ syncTime sync t ≤ t + sync := by
  unfold syncTime
  have := Nat.mod_lt t hs
  have hm : t % sync ≤ t := Nat.mod_le t sync
  omega

theorem syncTime_least (sync t m : Nat) (hs : 0 < sync) (hd : sync ∣ m) (hm : t < m) : syncTime sync t ≤ m := by
  obtain ⟨c, rfl⟩ := hd
  have hq : t / sync < c := Nat.div_lt_of_lt_mul hm
  have h1 : sync * (t / sync + 1) ≤ sync * c := Nat.mul_le_mul_left _ hq
  have h := Nat.div_add_mod t sync
  have hmod : t % sync ≤ t := Nat.mod_le t sync
  unfold syncTime
  rw [Nat.mul_add, Nat.mul_one] at h1
  omega

end MpfVerif.Show
