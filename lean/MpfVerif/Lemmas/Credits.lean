import MpfVerif.Model.Credits
/-! The vocabulary of `Props/C20.lean` (`Inv`, `Ledger`, `Good`, `accepted`, `coinsIn`) and the lemmas behind it. -/
namespace MpfVerif.Credits

/-- 0 ≤ balance ≤ max_credits · units per game (no upper bound when max_credits is 0) -/
def Inv (c : Cfg) (s : St) : Prop := 0 ≤ s.units ∧ (maxUnits c ≠ 0 → s.units ≤ maxUnits c)

/-- the ghost ledger balances, and nothing but the cap, an expiration, a reset or a power cycle removes units un-played -/
def Ledger (s : St) : Prop :=
  s.units = s.inUnits + s.bonus + s.granted - s.deducted - s.lost ∧ 0 ≤ s.lost

def Good (c : Cfg) (s : St) : Prop := Inv c s ∧ Ledger s

theorem maxUnits_nonneg (c : Cfg) : 0 ≤ maxUnits c := by unfold maxUnits; omega

theorem WF_iff (c : Cfg) : WF c = true ↔
    0 < creditUnit c ∧ 0 < upg c ∧ pricePerGame c % creditUnit c = 0 ∧ allDvd (creditUnit c) c.coins = true ∧
    allDvd (creditUnit c) (c.tiers.map (·.1)) = true ∧ 0 < wrap c ∧ ∀ k ≤ wrap c, 0 ≤ table c k := by
  simp only [WF, tableNonneg, Bool.and_eq_true, decide_eq_true_eq, beq_iff_eq, List.all_eq_true, List.mem_range,
    Nat.lt_succ_iff, and_assoc]

theorem upg_pos_of_wf (c : Cfg) (h : WF c = true) : 0 < upg c :=
  have ⟨_, hu, _⟩ := (WF_iff c).1 h
  hu

theorem wrap_pos_of_wf (c : Cfg) (h : WF c = true) : 0 < wrap c :=
  have ⟨_, _, _, _, _, hw, _⟩ := (WF_iff c).1 h
  hw

theorem table_nonneg_of_wf (c : Cfg) (h : WF c = true) (k : Nat) (hk : k ≤ wrap c) : 0 ≤ table c k :=
  have ⟨_, _, _, _, _, _, ht⟩ := (WF_iff c).1 h
  ht k hk

theorem tierLoop_nonneg (c : Cfg) (h : WF c = true) (n t : Nat) (b : Int) (ht : t < wrap c) (hb : 0 ≤ b) :
    0 ≤ (tierLoop c n t b).2 := by
  induction n generalizing t b with
  | zero => exact hb
  | succ n ih =>
    exact ih _ _ (Nat.mod_lt _ (wrap_pos_of_wf c h)) (Int.add_nonneg hb (table_nonneg_of_wf c h (t + 1) ht))

/-- the bonus `_add_credit_units` is going to grant -/
def addBonus (c : Cfg) (s : St) (n : Nat) (tiering : Bool) : Int :=
  (if tiering then tierLoop c n (s.tier % wrap c) 0 else (s.tier % wrap c, 0)).2

theorem addBonus_nonneg (c : Cfg) (h : WF c = true) (s : St) (n : Nat) (tiering : Bool) :
    0 ≤ addBonus c s n tiering := by
  unfold addBonus
  cases tiering
  · exact Int.le_refl 0
  · exact tierLoop_nonneg c h n _ 0 (Nat.mod_lt _ (wrap_pos_of_wf c h)) (Int.le_refl 0)

theorem newUnits_bounds (prev total mx : Int) (h1 : mx ≠ 0 → prev ≤ mx) (ht : prev ≤ total) :
    prev ≤ newUnits prev total mx ∧ newUnits prev total mx ≤ total ∧ (mx ≠ 0 → newUnits prev total mx ≤ mx) := by
  unfold newUnits
  omega

theorem emod_le_self (u d : Int) (hu : 0 ≤ u) (hd : 0 < d) : 0 ≤ u % d ∧ u % d ≤ u :=
  ⟨Int.emod_nonneg u (Int.ne_of_gt hd),
   Int.emod_def u d ▸ Int.sub_le_self u (Int.mul_nonneg (Int.le_of_lt hd) (Int.ediv_nonneg hu (Int.le_of_lt hd)))⟩

theorem deductUnits_bounds (c : Cfg) (u : Int) (h : 0 ≤ u) : 0 ≤ deductUnits c u ∧ deductUnits c u ≤ u := by
  unfold deductUnits; split <;> omega

/-- `d` units go, booked as deducted or lost: `_player_added`, both expirations, a reset, a power cycle -/
theorem Good.drop {c : Cfg} {s s' : St} (hs : Good c s) {d : Int} (hd0 : 0 ≤ d) (hd : d ≤ s.units)
    (hu : s'.units = s.units - d) (hi : s'.inUnits = s.inUnits) (hb : s'.bonus = s.bonus) (hg : s'.granted = s.granted)
    (ho : s'.deducted + s'.lost = s.deducted + s.lost + d) (hl : s.lost ≤ s'.lost) : Good c s' := by
  obtain ⟨⟨_, hm⟩, h1, h2⟩ := hs
  refine ⟨⟨?_, fun hx => ?_⟩, ?_, Int.le_trans h2 hl⟩
  · exact hu ▸ Int.sub_nonneg_of_le hd
  · exact hu ▸ Int.le_trans (Int.sub_le_self _ hd0) (hm hx)
  · rw [hu, hi, hb, hg, Int.sub_sub _ s'.deducted, ho, ← Int.sub_sub, ← Int.sub_sub, ← h1]

theorem clearFrac_good (c : Cfg) (h : WF c = true) (s : St) (hs : Good c s) : Good c (clearFrac c s) :=
  have hm := emod_le_self s.units (upg c) hs.1.1 (Int.natCast_pos.2 (upg_pos_of_wf c h))
  hs.drop hm.1 hm.2 rfl rfl rfl rfl (Int.add_assoc ..).symm (Int.le_add_of_nonneg_right hm.1)

theorem clearAll_good (c : Cfg) (s : St) (hs : Good c s) : Good c (clearAll s) :=
  hs.drop hs.1.1 (Int.le_refl _) (Int.sub_self _).symm rfl rfl rfl (Int.add_assoc ..).symm
    (Int.le_add_of_nonneg_right hs.1.1)

theorem playerAdded_good (c : Cfg) (s : St) (hs : Good c s) : Good c (playerAdded c s) :=
  have hd := deductUnits_bounds c s.units hs.1.1
  hs.drop (Int.sub_nonneg_of_le hd.2) (Int.sub_le_self _ hd.1) (Int.sub_sub_self ..).symm rfl rfl rfl
    (Int.add_right_comm ..) (Int.le_refl _)

theorem addUnits_units (c : Cfg) (s : St) (n : Nat) (t : Bool) :
    (addUnits c s n t).units = newUnits s.units (n + s.units + addBonus c s n t) (maxUnits c) := by rfl

theorem addUnits_bonus (c : Cfg) (s : St) (n : Nat) (t : Bool) :
    (addUnits c s n t).bonus = s.bonus + addBonus c s n t := by rfl

theorem addUnits_lost (c : Cfg) (s : St) (n : Nat) (t : Bool) :
    (addUnits c s n t).lost = s.lost + (n + s.units + addBonus c s n t - (addUnits c s n t).units) := by rfl

/-- `_add_credit_units` with the `n` units booked as bought or granted; what the cap swallows is booked as lost -/
theorem addUnits_booked {c : Cfg} (h : WF c = true) {s : St} (hs : Good c s) (n : Nat) (t : Bool) {s' : St}
    (hu : s'.units = (addUnits c s n t).units) (hb : s'.bonus = (addUnits c s n t).bonus)
    (hl : s'.lost = (addUnits c s n t).lost) (hd : s'.deducted = s.deducted)
    (hin : s'.inUnits + s'.granted = s.inUnits + s.granted + n) : Good c s' := by
  have hb0 := addBonus_nonneg c h s n t
  have hn := newUnits_bounds s.units (n + s.units + addBonus c s n t) (maxUnits c) hs.1.2 (by omega)
  rw [addUnits_lost, ← hu] at hl
  rw [addUnits_bonus] at hb
  rw [← addUnits_units, ← hu] at hn
  refine ⟨⟨Int.le_trans hs.1.1 hn.1, hn.2.2⟩, ?_⟩
  have ⟨hl0, hl1⟩ := hs.2
  clear hs hu hb0
  unfold Ledger
  omega

/-- what the earnings audit has to record for one request: (coins, money) — a coin counts iff the machine is in
credit play (in free play the coin switches are not watched) -/
def accepted (c : Cfg) (s : St) : Op → Nat × Nat
  | .coin i => if s.freePlay then (0, 0) else match c.coins[i]? with | none => (0, 0) | some v => (1, v)
  | .coinToggle i => if s.freePlay then (0, 0) else match c.coins[i]? with | none => (0, 0) | some v => (1, v)
  | _ => (0, 0)

/-- `h` with the balance, the ledger columns, the audits and the game of `x` -/
def retouch (x h : St) : St :=
  { h with units := x.units, inUnits := x.inUnits, bonus := x.bonus, granted := x.granted, deducted := x.deducted,
           lost := x.lost, coinCount := x.coinCount, earn := x.earn, paid := x.paid, game := x.game }

theorem ballStarting_frame (s : St) (p b : Nat) : retouch s (ballStarting s p b) = ballStarting s p b := by
  unfold ballStarting; split <;> rfl

theorem gameOver_frame (c : Cfg) (s : St) : retouch { s with game := none } (gameOver c s) = gameOver c s := by
  unfold gameOver; split <;> rfl

theorem togglePlay_frame (c : Cfg) (s : St) : retouch s (togglePlay c s) = togglePlay c s := by
  unfold togglePlay; split <;> rfl

theorem boot_frame (c : Cfg) (s : St) : retouch s (boot c s) = boot c s := by
  simp only [boot]; split <;> rfl

/-- Case principle for a request: a property of (what the audit is to record, the new state) that does not look at the
housekeeping fields (`hP`) holds if it holds for seven outcomes: at most the game moves and no player is added; a coin;
a grant of `n` units; a joining player (only on an approved start); a reset; an earnings reset; a power cycle that
keeps (`k`) or drops the balance. -/
theorem act_elim {P : Nat × Nat → St → Prop} (c : Cfg) (s : St) (op : Op)
    (hP : ∀ a x h, P a x → P a (retouch x h))
    (keep : ∀ g, players { s with game := g } ≤ players s → P (0, 0) { s with game := g })
    (coin : ∀ i, P (accepted c s (.coin i)) (coinHit c s i))
    (grant : ∀ n : Nat, P (0, 0) { addUnits c s n false with granted := (addUnits c s n false).granted + n })
    (join : op = .start → enough c s = true → ∀ g, g.players = players s + 1 → P (0, 0) (joinPlayer c s g))
    (clear : P (0, 0) (clearAll s))
    (earn : op = .earnReset → P (0, 0) { s with coinCount := 0, earn := 0, paid := 0 })
    (cycle : ∀ k : Bool, P (0, 0) { s with units := if k then s.units else 0,
                                           lost := s.lost + (s.units - if k then s.units else 0), game := none }) :
    P (accepted c s op) (act c s op) := by
  have frame {a : Nat × Nat} {x y : St} (hx : P a x) (e : retouch x y = y := by rfl) : P a y := e ▸ hP a x y hx
  have same (y : St) (e : retouch s y = y := by rfl) : P (0, 0) y := frame (keep s.game (Nat.le_refl _)) e
  cases op with
  | coin i => exact coin i
  | coinToggle i => exact frame (coin i) (togglePlay_frame ..)
  | reboot off => exact frame (frame (cycle _)) (boot_frame ..)
  | service =>
    dsimp only [act]
    split
    · exact same _
    · exact frame (grant (upg c))
  | event j =>
    dsimp only [act]
    split
    · exact same _
    · split
      · exact same _
      · exact frame (grant _)
  | start =>
    have hj (g : Game) : retouch (joinPlayer c s g) (joinPlayer c (gameStarted s) g) = joinPlayer c (gameStarted s) g := by
      unfold joinPlayer gameStarted; split <;> rfl
    dsimp only [act]
    split
    · rename_i hg
      split
      · exact frame (frame (join rfl ‹_› ⟨1, 0, 1⟩ (by rw [players, hg])) (hj _)) (ballStarting_frame ..)
      · exact same _
    · rename_i g hg
      split
      · split
        · exact join rfl ‹_› _ (by rw [players, hg])
        · exact same _
      · exact same _
  | drain =>
    dsimp only [act]
    split
    · exact same _
    · rename_i g hg
      have hp (g' : Game) (e : g'.players = g.players) : P (0, 0) { s with game := some g' } :=
        keep _ (by rw [players, players, hg]; exact Nat.le_of_eq e)
      split
      · exact frame (hp { g with cur := g.cur + 1 } rfl) (ballStarting_frame ..)
      · split
        · exact frame (keep none (Nat.zero_le _)) (gameOver_frame ..)
        · exact frame (hp { g with cur := 0, ball := g.ball + 1 } rfl) (ballStarting_frame ..)
  | endGame =>
    dsimp only [act]
    split
    · exact same _
    · exact frame (keep none (Nat.zero_le _)) (gameOver_frame ..)
  | toggle => exact same _ (togglePlay_frame ..)
  | reset | slam => exact clear
  | earnReset => exact frame (earn rfl)
  | adv | fpOn | fpOff => exact same _

theorem joinPlayer_good (c : Cfg) (s : St) (g : Game) (hs : Good c s) : Good c (joinPlayer c s g) := by
  unfold joinPlayer
  split
  · exact hs
  · exact playerAdded_good c _ hs

theorem coinHit_good (c : Cfg) (h : WF c = true) (s : St) (i : Nat) (hs : Good c s) : Good c (coinHit c s i) := by
  unfold coinHit
  split
  · exact hs
  · split
    · exact hs
    · rename_i v _
      exact addUnits_booked h hs (v / creditUnit c) true rfl rfl rfl rfl (Int.add_right_comm ..)

theorem act_good (c : Cfg) (h : WF c = true) (s : St) (op : Op) (hs : Good c s) : Good c (act c s op) :=
  act_elim (P := fun _ x => Good c x) c s op (fun _ _ _ hx => hx) (fun _ _ => hs) (fun i => coinHit_good c h s i hs)
    (fun n => addUnits_booked h hs n false rfl rfl rfl rfl (Int.add_assoc ..).symm)
    (fun _ _ g _ => joinPlayer_good c s g hs) (clearAll_good c s hs) (fun _ => hs)
    fun k => by
      have hd : 0 ≤ s.units - (if k then s.units else 0) ∧ s.units - (if k then s.units else 0) ≤ s.units := by
        have := hs.1.1
        cases k <;> simp only [Bool.false_eq_true, if_false, if_true] <;> omega
      exact hs.drop hd.1 hd.2 (Int.sub_sub_self ..).symm rfl rfl rfl (Int.add_assoc ..).symm
        (Int.le_add_of_nonneg_right hd.1)

theorem fireFrac_good (c : Cfg) (h : WF c = true) (s : St) (hs : Good c s) : Good c (fireFrac c s) := by
  unfold fireFrac
  split
  · split
    · exact clearFrac_good c h { s with fracDue := none } hs
    · exact hs
  · exact hs

theorem fireAll_good (c : Cfg) (s : St) (hs : Good c s) : Good c (fireAll s) := by
  unfold fireAll
  split
  · split
    · exact clearAll_good c { s with allDue := none } hs
    · exact hs
  · exact hs

theorem tick_good (c : Cfg) (h : WF c = true) (s : St) (dt : Nat) (hs : Good c s) : Good c (tick c s dt) :=
  fireAll_good c _ (fireFrac_good c h _ hs)

theorem step_good (c : Cfg) (h : WF c = true) (s : St) (op : Op) (hs : Good c s) : Good c (step c s op) :=
  tick_good c h _ _ (act_good c h s op hs)

theorem run_good (c : Cfg) (h : WF c = true) (ops : List Op) (s : St) (hs : Good c s) : Good c (run c s ops) := by
  induction ops generalizing s with
  | nil => exact hs
  | cons op rest ih => exact ih _ (step_good c h s op hs)

theorem init_good (c : Cfg) : Good c (init c) := by
  unfold init
  rw [← boot_frame]
  exact ⟨⟨Int.le_refl 0, fun _ => maxUnits_nonneg c⟩, ⟨rfl, Int.le_refl 0⟩⟩

theorem coinHit_game (c : Cfg) (s : St) (i : Nat) : (coinHit c s i).game = s.game := by
  unfold coinHit
  split
  · rfl
  · split <;> rfl

/-- `x` is `s` after request `op` let one more player in: an approved start request, at the charge of `joinPlayer`
(nothing in free play, else `_player_added`) -/
structure Joined (c : Cfg) (s : St) (op : Op) (x : St) : Prop where
  start : op = .start
  approved : enough c s = true
  one : players x = players s + 1
  units : x.units = if s.freePlay then s.units else deductUnits c s.units
  paid : x.paid = if s.freePlay then s.paid else s.paid + 1
  deducted : x.deducted = if s.freePlay then s.deducted else s.deducted + (s.units - deductUnits c s.units)

theorem joinPlayer_joined {c : Cfg} {s : St} {op : Op} {g : Game} (ho : op = .start) (he : enough c s = true)
    (hg : g.players = players s + 1) : Joined c s op (joinPlayer c s g) := by
  unfold joinPlayer
  split
  · exact ⟨ho, he, hg, (if_pos ‹_›).symm, (if_pos ‹_›).symm, (if_pos ‹_›).symm⟩
  · exact ⟨ho, he, hg, (if_neg ‹_›).symm, (if_neg ‹_›).symm, (if_neg ‹_›).symm⟩

/-- only an approved start request makes the number of players grow: by one, at the charge of `joinPlayer` -/
theorem players_grow {c : Cfg} {s : St} {op : Op} (hp : players (act c s op) > players s) :
    Joined c s op (act c s op) :=
  act_elim c s op (P := fun _ x => players x > players s → Joined c s op x)
    (fun _ _ _ hx hp => have j := hx hp; ⟨j.start, j.approved, j.one, j.units, j.paid, j.deducted⟩)
    (fun _ hg hx => absurd hx (Nat.not_lt.2 hg))
    (fun i hx => absurd hx (by rw [players, coinHit_game]; exact Nat.lt_irrefl _))
    (fun _ hx => absurd hx (Nat.lt_irrefl _)) (fun ho he _ hg _ => joinPlayer_joined ho he hg)
    (fun hx => absurd hx (Nat.lt_irrefl _)) (fun _ hx => absurd hx (Nat.lt_irrefl _))
    (fun _ hx => absurd hx (Nat.not_lt_zero _)) hp

/-- coins and money accepted over a history -/
def coinsIn (c : Cfg) : St → List Op → Nat × Nat
  | _, [] => (0, 0)
  | s, op :: rest => ((accepted c s op).1 + (coinsIn c (step c s op) rest).1,
                      (accepted c s op).2 + (coinsIn c (step c s op) rest).2)

theorem tick_audit (c : Cfg) (s : St) (dt : Nat) :
    (tick c s dt).coinCount = s.coinCount ∧ (tick c s dt).earn = s.earn := by
  have hf (x : St) : (fireFrac c x).coinCount = x.coinCount ∧ (fireFrac c x).earn = x.earn := by
    unfold fireFrac
    split
    · split <;> exact ⟨rfl, rfl⟩
    · exact ⟨rfl, rfl⟩
  have ha (x : St) : (fireAll x).coinCount = x.coinCount ∧ (fireAll x).earn = x.earn := by
    unfold fireAll
    split
    · split <;> exact ⟨rfl, rfl⟩
    · exact ⟨rfl, rfl⟩
  unfold tick
  rw [(ha _).1, (ha _).2]
  exact hf _

theorem coinHit_audit (c : Cfg) (s : St) (i : Nat) :
    (coinHit c s i).coinCount = s.coinCount + (accepted c s (.coin i)).1 ∧
    (coinHit c s i).earn = s.earn + (accepted c s (.coin i)).2 := by
  simp only [coinHit, accepted]
  split
  · exact ⟨rfl, rfl⟩
  · cases c.coins[i]? <;> exact ⟨rfl, rfl⟩

theorem step_audit (c : Cfg) (s : St) (op : Op) (h : op ≠ .earnReset) :
    (step c s op).coinCount = s.coinCount + (accepted c s op).1 ∧ (step c s op).earn = s.earn + (accepted c s op).2 := by
  unfold step
  rw [(tick_audit ..).1, (tick_audit ..).2]
  exact act_elim (P := fun a x => x.coinCount = s.coinCount + a.1 ∧ x.earn = s.earn + a.2) c s op (fun _ _ _ hx => hx)
    (fun _ _ => ⟨rfl, rfl⟩) (coinHit_audit c s) (fun _ => ⟨rfl, rfl⟩)
    (fun _ _ g _ => by unfold joinPlayer; split <;> exact ⟨rfl, rfl⟩) ⟨rfl, rfl⟩ (fun e => absurd e h) fun _ => ⟨rfl, rfl⟩

end MpfVerif.Credits
