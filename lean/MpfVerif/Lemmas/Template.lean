import MpfVerif.Model.Template
/-! `eval` is a sequence of steps, each of which may stop the evaluation and adds to the subscriptions and the read log
(`Res.bind`).  `eval` and `py` are restated per constructor in that form; what C16 says is proved once for a step. -/
namespace MpfVerif.Template

namespace Res

abbrev pure (o : Out) : Res := { out := o }

def after (S : List Sub) (R : List Loc) (r : Res) : Res :=
  { out := r.out, subs := S ++ r.subs, reads := R ++ r.reads }

/-- `r`, then `k` of its value; no value stops the evaluation -/
def bind (r : Res) (k : Val → Res) : Res :=
  match r.out with
  | .ok v => (k v).after r.subs r.reads
  | _ => r

theorem after_pure (S : List Sub) (R : List Loc) (o : Out) : (pure o).after S R = { out := o, subs := S, reads := R } := by
  simp [after]

/-- `access` is taken through its `if`s by lemmas of this kind: `split` there is slow (it case-splits how `∈ env.objs` is decided) -/
theorem after_ite {c : Prop} [Decidable c] {x y x0 y0 : Res} {S : List Sub} {R : List Loc} (hx : x = x0.after S R)
    (hy : y = y0.after S R) : (if c then x else y) = (if c then x0 else y0).after S R := by
  split <;> assumption

theorem bind_ok {r : Res} {v : Val} (h : r.out = .ok v) (k : Val → Res) : r.bind k = (k v).after r.subs r.reads := by
  simp only [bind, h]

theorem bind_stop {r : Res} (h : ∀ v, r.out ≠ .ok v) (k : Val → Res) : r.bind k = r := by
  unfold bind
  split
  · exact absurd ‹_› (h _)
  · rfl

/-- right side: the body of `eval` at `unary`, alternatives in `eval`'s order (else `eval_unary` below does not typecheck) -/
theorem bind_pure (r : Res) (f : Val → Out) :
    (r.bind fun v => pure (f v)) = match r.out with | .ok v => { r with out := f v } | _ => r := by
  unfold bind
  cases r.out <;> simp only [after_pure]

theorem bind_bind_pure (ra rb : Res) (f : Val → Val → Out) :
    (ra.bind fun va => rb.bind fun vb => pure (f va vb)) =
      match ra.out with
      | .ok va =>
        (match rb.out with
         | .ok vb => { out := f va vb, subs := ra.subs ++ rb.subs, reads := ra.reads ++ rb.reads }
         | o => { out := o, subs := ra.subs ++ rb.subs, reads := ra.reads ++ rb.reads })
      | _ => ra := by
  unfold bind
  cases ra.out with
  | ok va => cases h : rb.out <;> simp [after, h]
  | _ => rfl

end Res

variable (sub : Bool) (env : Env)

theorem eval_name (n : String) :
    eval sub env (.name n) =
      { out := ofPy sub (py false sub env (.name n)), subs := if sub ∧ n ∈ roots then [Sub.root n] else [] } := by
  rw [eval, py]
  by_cases h1 : n ∈ roots
  · simp only [h1, if_true, and_true]; rfl
  · by_cases h2 : n = "mode" ∨ (n = "game" ∧ ("game", []) ∈ env.objs)
    · simp only [h1, h2, if_true, if_false, and_false]; cases sub <;> rfl
    · simp only [h1, h2, if_false, and_false]; cases findParam n env.params <;> cases sub <;> rfl

theorem eval_unary (op : String) (e : Expr) :
    eval sub env (.unary op e) =
      (eval sub env e).bind fun v => .pure (ofExcept sub (viaTable opTable op (fun fn => applyUn fn v))) :=
  (Res.bind_pure _ _).symm

theorem eval_bin (op : String) (a b : Expr) :
    eval sub env (.bin op a b) =
      (eval sub env a).bind fun va => (eval sub env b).bind fun vb =>
        .pure (ofExcept sub (viaTable opTable op (fun fn => applyBin fn va vb))) :=
  (Res.bind_bind_pure _ _ _).symm

theorem eval_cmp (op : String) (a b : Expr) :
    eval sub env (.cmp op a b) =
      (eval sub env a).bind fun va => (eval sub env b).bind fun vb =>
        .pure (ofExcept sub (viaTable cmpTable op (fun fn => applyCmp fn va vb))) :=
  (Res.bind_bind_pure _ _ _).symm

theorem eval_boolop (op : String) (a b : Expr) :
    eval sub env (.boolop op a b) =
      (eval sub env a).bind fun va => (eval sub env b).bind fun vb =>
        .pure (ofExcept sub (viaTable boolTable op (fun fn => applyBool fn va vb))) :=
  (Res.bind_bind_pure _ _ _).symm

theorem eval_tcons (h t : Expr) :
    eval sub env (.tcons h t) =
      (eval sub env h).bind fun vh => (eval sub env t).bind fun vt => .pure (.ok (.tcons vh vt)) :=
  (Res.bind_bind_pure _ _ _).symm

theorem eval_slice (e b : Expr) :
    eval sub env (.slice e b) =
      (eval sub env e).bind fun va => (eval sub env b).bind fun vb => .pure (ofExcept sub (pySlice va vb)) :=
  (Res.bind_bind_pure _ _ _).symm

theorem eval_ite (c a b : Expr) :
    eval sub env (.ite c a b) =
      (eval sub env c).bind fun vc => if truthy vc then eval sub env a else eval sub env b := rfl

theorem access_after (v : Val) (a : String) (S : List Sub) (R : List Loc) :
    access sub env v a S R = (access sub env v a [] []).after S R := by
  unfold access
  split
  · rename_i r p
    refine Res.after_ite (by simp [Res.after]) (Res.after_ite (by simp [Res.after]) ?_)
    cases env.look (r, p ++ [a]) <;> simp [Res.after]
  · simp [Res.after]

theorem itemRes_after (v vk : Val) (S : List Sub) (R : List Loc) :
    itemRes sub env v vk S R = (itemRes sub env v vk [] []).after S R := by
  unfold itemRes
  split <;> simp only [apply_ite (Res.after S R), Res.after_pure, ← access_after]

/-- the last step of `eval` at `e.a`, given the value `v` of `e` -/
def attrRes (v : Val) (a : String) : Res :=
  if truthy v = false then .pure (if sub then .default else .crash)
  else if v = .obj "players" [] then .pure .unmodelled
  else access sub env v a [] []

theorem eval_attr (e : Expr) (a : String) :
    eval sub env (.attr e a) = (eval sub env e).bind fun v => attrRes sub env v a := by
  simp only [eval, Res.bind, attrRes, apply_ite (Res.after _ _), Res.after_pure, ← access_after]
  rfl

theorem eval_item (e k : Expr) :
    eval sub env (.item e k) =
      (eval sub env e).bind fun v => (eval sub env k).bind fun vk => itemRes sub env v vk [] [] := by
  simp only [eval, Res.bind]
  cases (eval sub env e).out with
  | ok v =>
    cases h : (eval sub env k).out with
    | ok vk => simp [itemRes_after sub env v vk (_ ++ _), Res.after]
    | _ => simp [Res.after, h]
  | _ => rfl

/-- what `reads_subscribed` says of a result -/
def Covered (r : Res) : Prop := ∀ l ∈ r.reads, Sub.loc l ∈ r.subs

namespace Covered

theorem pure (o : Out) : Covered (.pure o) := fun _ h => nomatch h

theorem after {r : Res} {S : List Sub} {R : List Loc} (h : Covered r) (h0 : ∀ l ∈ R, Sub.loc l ∈ S) :
    Covered (r.after S R) := by
  intro l hl
  simp only [Res.after, List.mem_append] at hl ⊢
  exact hl.imp (h0 l) (h l)

theorem ite {c : Prop} [Decidable c] {x y : Res} (hx : Covered x) (hy : Covered y) :
    Covered (if c then x else y) := by
  split <;> assumption

theorem bind {r : Res} {k : Val → Res} (hr : Covered r) (hk : ∀ v, Covered (k v)) : Covered (r.bind k) := by
  unfold Res.bind
  split
  · exact (hk _).after hr
  · exact hr

end Covered

theorem access_covered (v : Val) (a : String) : Covered (access true env v a [] []) := by
  unfold access
  split
  · rename_i r p
    refine .ite (fun _ h => nomatch h) (.ite (.pure _) ?_)
    cases env.look (r, p ++ [a]) <;> simp [Covered]
  · exact .pure _

theorem itemRes_covered (v vk : Val) : Covered (itemRes true env v vk [] []) := by
  unfold itemRes
  split <;> simp only [apply_ite Covered, Covered.pure, access_covered, ite_self]

theorem attrRes_covered (v : Val) (a : String) : Covered (attrRes true env v a) := by
  simp only [attrRes, apply_ite Covered, Covered.pure, access_covered, ite_self]

/-- `>>=` with the alternatives in `py`'s order, for the same reason -/
theorem bind_eq_match (p : Except PyErr Val) (q : Val → Except PyErr Val) :
    p >>= q = match p with | .ok v => q v | .error x => .error x := by
  cases p <;> rfl

variable (lazy rej : Bool)

theorem py_unary (op : String) (e : Expr) :
    py lazy rej env (.unary op e) =
      py lazy rej env e >>= fun v => liftOp (viaTable opTable op (fun fn => applyUn fn v)) := by
  simp only [bind_eq_match]; rfl

theorem py_bin (op : String) (a b : Expr) :
    py lazy rej env (.bin op a b) =
      py lazy rej env a >>= fun va => py lazy rej env b >>= fun vb =>
        liftOp (viaTable opTable op (fun fn => applyBin fn va vb)) := by
  simp only [bind_eq_match]; rfl

theorem py_cmp (op : String) (a b : Expr) :
    py lazy rej env (.cmp op a b) =
      py lazy rej env a >>= fun va => py lazy rej env b >>= fun vb =>
        liftOp (viaTable cmpTable op (fun fn => applyCmp fn va vb)) := by
  simp only [bind_eq_match]; rfl

theorem py_boolop (op : String) (a b : Expr) :
    py lazy rej env (.boolop op a b) =
      py lazy rej env a >>= fun va =>
        if lazy && ((op = "And" && !truthy va) || (op = "Or" && truthy va)) then .ok va
        else py lazy rej env b >>= fun vb => liftOp (viaTable boolTable op (fun fn => applyBool fn va vb)) := by
  simp only [bind_eq_match]; rfl

theorem py_ite (c a b : Expr) :
    py lazy rej env (.ite c a b) =
      py lazy rej env c >>= fun vc => if truthy vc then py lazy rej env a else py lazy rej env b := by
  simp only [bind_eq_match]; rfl

theorem py_tcons (h t : Expr) :
    py lazy rej env (.tcons h t) =
      py lazy rej env h >>= fun vh => py lazy rej env t >>= fun vt => .ok (.tcons vh vt) := by
  simp only [bind_eq_match]; rfl

theorem py_attr (e : Expr) (a : String) :
    py lazy rej env (.attr e a) =
      py lazy rej env e >>= fun v =>
        if truthy v = false then .error .attrError else if v = .obj "players" [] then .error .unmodelled
        else pyAccess env v a := by
  simp only [bind_eq_match]; rfl

theorem py_item (e k : Expr) :
    py lazy rej env (.item e k) =
      py lazy rej env e >>= fun v => py lazy rej env k >>= fun vk => pyItem env v vk := by
  simp only [bind_eq_match]; rfl

theorem py_slice (e b : Expr) :
    py lazy rej env (.slice e b) =
      py lazy rej env e >>= fun va => py lazy rej env b >>= fun vb => liftOp (pySlice va vb) := by
  simp only [bind_eq_match]; rfl

theorem ofPy_liftOp (r : Except OpErr Val) : ofPy sub (liftOp r) = ofExcept sub r := by
  cases r with
  | ok v => rfl
  | error e => cases e <;> rfl

theorem ofPy_error_ne_ok (x : PyErr) (v : Val) : ofPy sub (.error x) ≠ .ok v := by
  cases x <;> cases sub <;> simp [ofPy, mapErr]

theorem out_bind {r : Res} {k : Val → Res} {p : Except PyErr Val} {q : Val → Except PyErr Val}
    (hr : r.out = ofPy sub p) (hk : ∀ v, (k v).out = ofPy sub (q v)) : (r.bind k).out = ofPy sub (p >>= q) := by
  cases p with
  | ok v => rw [Res.bind_ok hr]; exact hk v
  | error x => rw [Res.bind_stop (fun v => hr ▸ ofPy_error_ne_ok sub x v)]; exact hr

theorem out_ite {c : Prop} [Decidable c] {x y : Res} {p q : Except PyErr Val} (hx : x.out = ofPy sub p)
    (hy : y.out = ofPy sub q) : (if c then x else y).out = ofPy sub (if c then p else q) := by
  split <;> assumption

theorem access_out (v : Val) (a : String) (S : List Sub) (R : List Loc) :
    (access sub env v a S R).out = ofPy sub (pyAccess env v a) := by
  unfold access pyAccess
  split
  · rename_i r p
    refine out_ite sub rfl (out_ite sub ?_ ?_)
    · split <;> cases sub <;> rfl
    · cases env.look (r, p ++ [a]) <;> rfl
  · rfl

theorem itemRes_out (v vk : Val) (S : List Sub) (R : List Loc) :
    (itemRes sub env v vk S R).out = ofPy sub (pyItem env v vk) := by
  unfold itemRes pyItem
  split <;> simp only [apply_ite Res.out, apply_ite (ofPy sub), access_out, ofPy_liftOp] <;> rfl

/-- every value of `p` is a value of `p'` -/
def OkLe (p p' : Except PyErr Val) : Prop := ∀ v, p = .ok v → p' = .ok v

namespace OkLe

theorem refl (p : Except PyErr Val) : OkLe p p := fun _ h => h

theorem bind {p p' : Except PyErr Val} {q q' : Val → Except PyErr Val} (hp : OkLe p p')
    (hq : ∀ w, OkLe (q w) (q' w)) : OkLe (p >>= q) (p' >>= q') := by
  intro v h
  cases p with
  | ok w => rw [hp w rfl]; exact hq w v h
  | error x => cases h

end OkLe

theorem liftOp_ok {r : Except OpErr Val} {v : Val} (h : liftOp r = .ok v) : r = .ok v := by
  cases r with
  | ok w => simpa [liftOp] using h
  | error e => simp [liftOp] at h

/-- where Python stops at the left operand (`py`'s own test), folding both operands gives the left operand too -/
theorem short_circuit (op : String) (va vb : Val) (h : ((op = "And" && !truthy va) || (op = "Or" && truthy va)) = true) :
    viaTable boolTable op (fun fn => applyBool fn va vb) = .ok va := by
  simp only [Bool.or_eq_true, Bool.and_eq_true, decide_eq_true_eq, Bool.not_eq_true'] at h
  rcases h with ⟨rfl, ht⟩ | ⟨rfl, ht⟩ <;> simp [viaTable, lookup, boolTable, applyBool, ht]

theorem strict_to_lazy (e : Expr) : OkLe (py false rej env e) (py true rej env e) := by
  induction e with
  | const | name | tnil => exact .refl _
  | unary _ _ ih | attr _ _ ih => simp only [py_unary, py_attr]; exact ih.bind fun _ => .refl _
  | bin _ _ _ iha ihb | cmp _ _ _ iha ihb | tcons _ _ iha ihb | slice _ _ iha ihb | item _ _ iha ihb =>
    simp only [py_bin, py_cmp, py_tcons, py_slice, py_item]
    exact iha.bind fun _ => ihb.bind fun _ => .refl _
  | ite _ _ _ ihc iha ihb => rw [py_ite, py_ite]; exact ihc.bind fun v => by split <;> assumption
  | boolop op a b iha ihb =>
    rw [py_boolop, py_boolop]
    refine iha.bind fun va => ?_
    simp only [Bool.false_and, Bool.true_and, Bool.false_eq_true, if_false]
    split
    · -- Python stops at `va`; with both operands evaluated the table function returns `va` as well
      rename_i hc
      intro v h
      cases hb : py false rej env b with
      | error x => rw [hb] at h; cases h
      | ok vb =>
        rw [hb] at h
        have hv := liftOp_ok h
        rw [short_circuit op va vb hc] at hv
        rw [Except.ok.inj hv]
    · exact ihb.bind fun _ => .refl _

/-- `env'` has the same parameters and the same placeholder objects as `env`, and the same value (or the same absence) at
every location subscribed in `subs` -/
def Agree (env env' : Env) (subs : List Sub) : Prop :=
  env'.params = env.params ∧ env'.objs = env.objs ∧ ∀ l, Sub.loc l ∈ subs → env'.look l = env.look l

theorem Agree.mono {env env' : Env} {S T : List Sub} (h : Agree env env' T) (hs : S ⊆ T) : Agree env env' S :=
  ⟨h.1, h.2.1, fun l hl => h.2.2 l (hs hl)⟩

theorem fresh_bind {env env' : Env} {r r' : Res} {k k' : Val → Res} (h : Agree env env' (r.bind k).subs)
    (hr : Agree env env' r.subs → r' = r) (hk : ∀ v, r.out = .ok v → Agree env env' (k v).subs → k' v = k v) :
    r'.bind k' = r.bind k := by
  cases ho : r.out with
  | ok v =>
    rw [Res.bind_ok ho] at h
    rw [hr (h.mono (List.subset_append_left ..)), Res.bind_ok ho, Res.bind_ok ho,
      hk v ho (h.mono (List.subset_append_right ..))]
  | _ =>
    have hs : ∀ v, r.out ≠ .ok v := by simp [ho]
    rw [Res.bind_stop hs] at h
    rw [hr h, Res.bind_stop hs, Res.bind_stop hs]

theorem fresh_ite {env env' : Env} {c : Prop} [Decidable c] {x x' y y' : Res} (hx : Agree env env' x.subs → x' = x)
    (hy : Agree env env' y.subs → y' = y) :
    Agree env env' (if c then x else y).subs → (if c then x' else y') = if c then x else y := by
  split <;> assumption

theorem access_fresh {env env' : Env} (v : Val) (a : String) :
    Agree env env' (access true env v a [] []).subs → access true env' v a [] [] = access true env v a [] [] := by
  intro h
  unfold access at h ⊢
  split
  · rename_i r p
    rw [h.2.1]
    revert h
    refine fresh_ite (fun _ => rfl) (fresh_ite (fun _ => rfl) fun h => ?_)
    rw [h.2.2 (r, p ++ [a]) (by cases env.look (r, p ++ [a]) <;> simp)]
  · rfl

theorem itemRes_fresh {env env' : Env} (v vk : Val) :
    Agree env env' (itemRes true env v vk [] []).subs → itemRes true env' v vk [] [] = itemRes true env v vk [] [] := by
  unfold itemRes
  split
  · exact fresh_ite (fun _ => rfl) (fresh_ite (fun _ => rfl) (access_fresh _ _))
  · exact fresh_ite (access_fresh _ _) fun _ => rfl
  · exact fun _ => rfl
  · exact fun _ => rfl

theorem attrRes_fresh {env env' : Env} (v : Val) (a : String) :
    Agree env env' (attrRes true env v a).subs → attrRes true env' v a = attrRes true env v a :=
  fresh_ite (fun _ => rfl) (fresh_ite (fun _ => rfl) (access_fresh v a))

theorem textEval_covered (f : Expr → Res) (hf : ∀ e, Covered (f e)) (ps : List Piece) : Covered (textEval f ps) := by
  induction ps with
  | nil => exact .pure _
  | cons p ps ih =>
    cases p with
    | lit s => exact ih
    | fld e spec =>
      simp only [textEval]
      split
      · exact Covered.after (r := { textEval f ps with out := _ }) ih (hf e)
      · exact hf e

theorem subs_text_fld_l (f : Expr → Res) (e : Expr) (spec : String) (ps : List Piece) :
    (f e).subs ⊆ (textEval f (.fld e spec :: ps)).subs := by
  simp only [textEval]; split <;> simp

theorem subs_text_fld_r (f : Expr → Res) (e : Expr) (spec : String) (ps : List Piece) (s : String)
    (h : fieldOut (f e).out spec = .ok (.str s)) : (textEval f ps).subs ⊆ (textEval f (.fld e spec :: ps)).subs := by
  simp [textEval, h]

end MpfVerif.Template
