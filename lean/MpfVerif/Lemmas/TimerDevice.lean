import MpfVerif.Model.TimerDevice
/-! Invariant of the Timer-device model and what every step keeps (`step_ok`). -/
namespace MpfVerif.TimerDevice

/-- everything but "a running timer is not at its end value" -/
structure Inv0 (s : T) : Prop where
  run_noresume : s.running = true → s.resume = none
  resume_ge : ∀ r, s.resume = some r → s.now ≤ r + s.slack
  arm_ge : s.running = true → ∀ a, s.arm = some a → s.now ≤ a + s.iv + s.slack
  run_armed : s.running = true → ∃ a, s.arm = some a
  /-- the system timer's schedule is absolute: its next run is due at creation time + (runs so far + 1) intervals -/
  arm_abs : ∀ a, s.arm = some a → a = s.t0 + s.cnt * s.iv

structure Inv (c : Cfg) (s : T) : Prop extends Inv0 s where
  run_notdone : s.running = true → done c s.ticks = false

theorem init_inv (c : Cfg) (iv : Nat) : Inv c (init c iv) := by
  constructor
  · constructor <;> simp [init]
  · simp [init]

/-- what the events of one call say: `complete` only at/past the end value; a `tick` event only from a timer that is
running, with the count it carries, not at the end value -/
def Facts (c : Cfg) (r : T × List Obs) : Prop :=
  (∀ k, (⟨.complete, k⟩ : Obs) ∈ r.2 → done c k = true) ∧
  (∀ k, (⟨.tick, k⟩ : Obs) ∈ r.2 → r.1.running = true ∧ r.1.ticks = k ∧ done c k = false)

theorem Facts.complete {c : Cfg} {r : T × List Obs} (f : Facts c r) : ∀ k, (⟨.complete, k⟩ : Obs) ∈ r.2 → done c k = true := f.1

theorem Facts.tick {c : Cfg} {r : T × List Obs} (f : Facts c r) :
    ∀ k, (⟨.tick, k⟩ : Obs) ∈ r.2 → r.1.running = true ∧ r.1.ticks = k ∧ done c k = false := f.2

/-- `r` is the result of a call made with slack `k` -/
structure Ok (c : Cfg) (r : T × List Obs) (k : Nat) : Prop where
  inv : Inv c r.1
  facts : Facts c r
  slack : r.1.slack = k

theorem Ok.cons {c : Cfg} {k : Nat} {r : T × List Obs} (g : Ok c r k) (o : Obs) (h1 : o.ev ≠ .tick)
    (h2 : o.ev ≠ .complete) : Ok c (r.1, o :: r.2) k := by
  refine ⟨g.inv, ⟨fun k hk => ?_, fun k hk => ?_⟩, g.slack⟩
  · rcases List.mem_cons.mp hk with a | a
    · rw [← a] at h2; simp at h2
    · exact g.facts.complete k a
  · rcases List.mem_cons.mp hk with a | a
    · rw [← a] at h1; simp at h1
    · exact g.facts.tick k a

theorem doStop_ok (c : Cfg) (s : T) : Ok c (doStop s) s.slack :=
  ⟨⟨by constructor <;> simp [doStop], by simp [doStop]⟩, by simp [Facts, doStop], rfl⟩

/-- `timer_complete()`: stopped; restarted (`restart_on_complete`); or restarting at an end value (`diverge`) -/
theorem doComplete_cases (c : Cfg) (s : T) :
    (c.roc = false ∧ doComplete c s = ({ s with running := false, arm := none, resume := none },
        [⟨.stopped, s.ticks⟩, ⟨.complete, s.ticks⟩])) ∨
    (c.roc = true ∧ done c (clip c c.start) = false ∧ doComplete c s =
      ({ s with running := true, arm := some s.now, resume := none, ticks := clip c c.start, t0 := s.now, cnt := 0 },
        [⟨.stopped, s.ticks⟩, ⟨.complete, s.ticks⟩, ⟨.started, clip c c.start⟩, ⟨.tick, clip c c.start⟩])) ∨
    (c.roc = true ∧ done c (clip c c.start) = true ∧ doComplete c s =
      ({ s with running := false, arm := some s.now, resume := none, ticks := clip c c.start, t0 := s.now, cnt := 0 },
        [⟨.stopped, s.ticks⟩, ⟨.complete, s.ticks⟩, ⟨.diverge, clip c c.start⟩])) := by
  cases hr : c.roc
  · exact Or.inl ⟨rfl, by simp [doComplete, hr, doStop]⟩
  · cases hd : done c (clip c c.start)
    · exact Or.inr (Or.inl ⟨rfl, rfl, by simp [doComplete, hr, hd, doStop]⟩)
    · exact Or.inr (Or.inr ⟨rfl, rfl, by simp [doComplete, hr, hd, doStop]⟩)

theorem doComplete_ok (c : Cfg) (s : T) (hd : done c s.ticks = true) : Ok c (doComplete c s) s.slack := by
  rcases doComplete_cases c s with ⟨-, h⟩ | ⟨-, hd2, h⟩ | ⟨-, -, h⟩ <;> rw [h]
  · exact ⟨⟨by constructor <;> simp, by simp⟩, by simp [Facts, hd], rfl⟩
  · exact ⟨⟨by constructor <;> simp <;> omega, by simp [hd2]⟩, by simp [Facts, hd, hd2], rfl⟩
  · exact ⟨⟨by constructor <;> simp, by simp⟩, by simp [Facts, hd], rfl⟩

theorem complete_mem (c : Cfg) (s : T) : (⟨.complete, s.ticks⟩ : Obs) ∈ (doComplete c s).2 := by
  rcases doComplete_cases c s with ⟨-, h⟩ | ⟨-, -, h⟩ | ⟨-, -, h⟩ <;> simp [h]

theorem checkDone_complete (c : Cfg) (s : T) (hd : done c s.ticks = true) :
    (⟨.complete, s.ticks⟩ : Obs) ∈ (checkDone c s).2 := by
  rw [checkDone, if_pos hd]; exact complete_mem c s

theorem doComplete_resume (c : Cfg) (s : T) : (doComplete c s).1.resume = none := by
  rcases doComplete_cases c s with ⟨-, h⟩ | ⟨-, -, h⟩ | ⟨-, -, h⟩ <;> rw [h]

theorem checkDone_ok (c : Cfg) (s : T) (i : Inv0 s) : Ok c (checkDone c s) s.slack := by
  unfold checkDone
  split
  · exact doComplete_ok c s ‹_›
  · exact ⟨⟨i, fun _ => Bool.eq_false_iff.mpr ‹_›⟩, by simp [Facts], rfl⟩

theorem doStart_ok (c : Cfg) (s : T) (i : Inv c s) : Ok c (doStart c s) s.slack := by
  unfold doStart
  split
  · exact ⟨i, by simp [Facts], rfl⟩
  · split
    · exact doComplete_ok c s ‹_›
    · have hd : done c s.ticks = false := Bool.eq_false_iff.mpr ‹_›
      exact ⟨⟨by constructor <;> simp <;> omega, fun _ => hd⟩, by simp [Facts, hd], rfl⟩

theorem doStart_resume (c : Cfg) (s : T) (h : s.running = false) : (doStart c s).1.resume = none := by
  unfold doStart
  rw [h]
  simp only [Bool.false_eq_true, if_false]
  split
  · exact doComplete_resume c s
  · rfl

/-- re-creating the system timer now (`_create_system_timer`) keeps the invariant, whatever else stays -/
theorem rearm_inv0 (s : T) (k : Int) (iv : Nat) (i : Inv0 s) :
    Inv0 { s with ticks := k, iv := iv, arm := some s.now, t0 := s.now, cnt := 0 } := by
  constructor
  · exact i.run_noresume
  · exact i.resume_ge
  · intro _ a h; simp at h; subst h; simp; omega
  · intro _; exact ⟨s.now, rfl⟩
  · intro a h; simp at h; subst h; simp

theorem Inv0.setTicks {s : T} (i : Inv0 s) (k : Int) : Inv0 { s with ticks := k } :=
  ⟨i.run_noresume, i.resume_ge, i.arm_ge, i.run_armed, i.arm_abs⟩

theorem doJump_ok (c : Cfg) (s : T) (v : Int) (i : Inv0 s) : Ok c (doJump c s v) s.slack :=
  checkDone_ok c _ (rearm_inv0 s (clip c v) s.iv i)

theorem step_clock {c : Cfg} {s : T} {r : T × List Obs} (h : step c s .clock = some r) :
    ∃ a, s.arm = some a ∧ s.running = true ∧ a + s.iv ≤ s.now ∧
      r = if done c (bump c s.ticks) then
            doComplete c { s with arm := some (a + s.iv), cnt := s.cnt + 1, ticks := bump c s.ticks }
          else ({ s with arm := some (a + s.iv), cnt := s.cnt + 1, ticks := bump c s.ticks }, [⟨.tick, bump c s.ticks⟩]) := by
  simp only [step] at h
  cases ha : s.arm with
  | none => simp [ha] at h
  | some a =>
    simp only [ha] at h
    split at h
    · rename_i hc
      refine ⟨a, rfl, hc.1, hc.2, ?_⟩
      split at h
      · rw [if_pos ‹_›]; exact (Option.some.inj h).symm
      · rw [if_neg ‹_›]; exact (Option.some.inj h).symm
    · cases h

theorem step_to {c : Cfg} {s : T} {t : Nat} {r : T × List Obs} (h : step c s (.to t) = some r) :
    (s.now ≤ t ∧ t ≤ s.resume.getD t ∧ (s.running = true → t ≤ (s.arm.map (· + s.iv)).getD t)) ∧
    ∃ arm', r = ({ s with now := t, arm := arm', slack := 0 }, []) ∧ (s.running = true → arm' = s.arm) ∧
      ∀ a, arm' = some a → s.arm = some a := by
  simp only [step] at h
  split at h
  · rename_i hc
    refine ⟨hc, _, (Option.some.inj h).symm, fun hr => by simp [hr], fun a ha => ?_⟩
    split at ha
    · exact ha
    · split at ha
      · split at ha
        · cases ha
        · rename_i hs _; rw [hs, ← ha]
      · cases ha
  · cases h

theorem step_resumeFire {c : Cfg} {s : T} {r : T × List Obs} (h : step c s .resumeFire = some r) :
    ∃ t, s.resume = some t ∧ t ≤ s.now ∧ r = doStart c { s with resume := none } := by
  simp only [step] at h
  cases hr : s.resume with
  | none => simp [hr] at h
  | some t =>
    simp only [hr] at h
    split at h
    · exact ⟨t, rfl, ‹_›, (Option.some.inj h).symm⟩
    · cases h

/-- what every step `op` from `s` guarantees of its result `r`; only a `stall` raises the slack -/
structure StepOk (c : Cfg) (s : T) (op : Op) (r : T × List Obs) : Prop where
  inv : Inv c r.1
  facts : Facts c r
  slack_le : (∀ d, op ≠ .stall d) → r.1.slack ≤ s.slack

theorem step_ok (c : Cfg) (s : T) (op : Op) (r : T × List Obs) (i : Inv c s) (h : step c s op = some r) :
    StepOk c s op r := by
  have ok : ∀ {r}, Ok c r s.slack → StepOk c s op r :=
    fun g => ⟨g.inv, g.facts, fun _ => Nat.le_of_eq g.slack⟩
  cases op with
  | start => obtain rfl := Option.some.inj h; exact ok (doStart_ok c s i)
  | stop => obtain rfl := Option.some.inj h; exact ok (doStop_ok c s)
  | removed => obtain rfl := Option.some.inj h; exact ok (doStop_ok c s)
  | pause ms =>
    obtain rfl := Option.some.inj h
    refine ok ⟨⟨⟨by simp, fun r hr => ?_, by simp, by simp, by simp⟩, by simp⟩, by simp [Facts], rfl⟩
    simp only at hr
    split at hr
    · exact i.resume_ge r hr
    · obtain rfl := Option.some.inj hr; simp; omega
  | add v =>
    obtain rfl := Option.some.inj h
    exact ok ((checkDone_ok c _ (i.toInv0.setTicks (clip c (s.ticks + v)))).cons ⟨.added, _⟩ (by simp) (by simp))
  | sub v =>
    obtain rfl := Option.some.inj h
    exact ok ((checkDone_ok c _ (i.toInv0.setTicks (s.ticks - v))).cons ⟨.subtracted, _⟩ (by simp) (by simp))
  | jump v => obtain rfl := Option.some.inj h; exact ok (doJump_ok c s v i.toInv0)
  | reset => obtain rfl := Option.some.inj h; exact ok (doJump_ok c s c.start i.toInv0)
  | restart =>
    have gj := doJump_ok c s c.start i.toInv0
    simp only [step] at h
    split at h
    · rename_i hrun
      have hnd := gj.inv.run_notdone hrun
      simp only [hnd] at h
      obtain rfl := Option.some.inj h
      refine ok ⟨gj.inv, ⟨fun k hk => ?_, fun k hk => ?_⟩, gj.slack⟩
      · exact (List.mem_append.mp hk).elim (gj.facts.complete k) (by simp)
      · rcases List.mem_append.mp hk with a | a
        · exact gj.facts.tick k a
        · simp at a; subst a; exact ⟨hrun, rfl, hnd⟩
    · rename_i hrun
      obtain rfl := Option.some.inj h
      have gs := doStart_ok c _ gj.inv
      refine ok ⟨gs.inv, ⟨fun k hk => ?_, fun k hk => ?_⟩, gs.slack.trans gj.slack⟩
      · exact (List.mem_append.mp hk).elim (gj.facts.complete k) (gs.facts.complete k)
      · exact (List.mem_append.mp hk).elim (fun a => absurd (gj.facts.tick k a).1 hrun) (gs.facts.tick k)
  | setIv k =>
    obtain rfl := Option.some.inj h
    exact ok ⟨⟨rearm_inv0 s s.ticks k i.toInv0, i.run_notdone⟩, by simp [Facts], rfl⟩
  | chIv f =>
    obtain rfl := Option.some.inj h
    exact ok ⟨⟨rearm_inv0 s s.ticks (s.iv * f) i.toInv0, i.run_notdone⟩, by simp [Facts], rfl⟩
  | to t =>
    obtain ⟨⟨-, c2, c3⟩, arm', rfl, h1, h2⟩ := step_to h
    refine ⟨⟨⟨i.run_noresume, fun r hr => ?_, fun hr a ha => ?_, fun hr => h1 hr ▸ i.run_armed hr,
      fun a ha => i.arm_abs a (h2 a ha)⟩, i.run_notdone⟩, by simp [Facts], fun _ => Nat.zero_le _⟩
    · have hr' : s.resume = some r := hr
      rw [hr'] at c2; simpa using c2
    · have := c3 hr
      rw [h2 a ha] at this
      simpa using this
  | stall d =>
    obtain rfl := Option.some.inj h
    refine ⟨⟨⟨i.run_noresume, fun r hr => ?_, fun hr a ha => ?_, i.run_armed, i.arm_abs⟩, i.run_notdone⟩,
      by simp [Facts], fun hn => absurd rfl (hn d)⟩
    · have := i.resume_ge r hr; simp; omega
    · have := i.arm_ge hr a ha; simp; omega
  | clock =>
    obtain ⟨a, ha, hrun, hdue, rfl⟩ := step_clock h
    split
    · rename_i hd; exact ok (doComplete_ok c _ hd)
    · have hd : done c (bump c s.ticks) = false := Bool.eq_false_iff.mpr ‹_›
      have h1 := i.arm_ge hrun a ha
      have h2 := i.arm_abs a ha
      refine ok ⟨⟨⟨i.run_noresume, i.resume_ge, fun _ a' ha' => ?_, fun _ => ⟨_, rfl⟩, fun a' ha' => ?_⟩, fun _ => hd⟩,
        by simp [Facts, hrun, hd], rfl⟩
      · obtain rfl := Option.some.inj ha'
        show s.now ≤ a + s.iv + s.iv + s.slack
        omega
      · obtain rfl := Option.some.inj ha'
        show a + s.iv = s.t0 + (s.cnt + 1) * s.iv
        rw [Nat.succ_mul]; omega
  | resumeFire =>
    obtain ⟨t, -, -, rfl⟩ := step_resumeFire h
    exact ok (doStart_ok c _ ⟨⟨fun _ => rfl, fun r hr => by simp at hr, i.arm_ge, i.run_armed, i.arm_abs⟩, i.run_notdone⟩)

theorem run_cons {c : Cfg} {s : T} {op : Op} {ops : List Op} {r : T × List Obs} (h : run c s (op :: ops) = some r) :
    ∃ r1 r2, step c s op = some r1 ∧ run c r1.1 ops = some r2 ∧ r = (r2.1, r1.2 ++ r2.2) := by
  simp only [run] at h
  cases h1 : step c s op with
  | none => simp [h1] at h
  | some r1 =>
    simp only [h1] at h
    cases h2 : run c r1.1 ops with
    | none => simp [h2] at h
    | some r2 =>
      simp only [h2] at h
      injection h with h
      exact ⟨r1, r2, rfl, h2, h.symm⟩

theorem run_inv (c : Cfg) (ops : List Op) : ∀ (s : T) (r : T × List Obs), Inv c s → run c s ops = some r → Inv c r.1 := by
  induction ops with
  | nil => intro s r i h; simp [run] at h; subst h; exact i
  | cons op ops ih =>
    intro s r i h
    obtain ⟨r1, r2, h1, h2, rfl⟩ := run_cons h
    exact ih r1.1 r2 (step_ok c s op r1 i h1).inv h2

theorem run_noStall_slack (c : Cfg) (ops : List Op) : ∀ (s : T) (r : T × List Obs), Inv c s → s.slack = 0 →
    (∀ op ∈ ops, ∀ d, op ≠ .stall d) → run c s ops = some r → r.1.slack = 0 := by
  induction ops with
  | nil => intro s r _ hs _ h; simp [run] at h; subst h; exact hs
  | cons op ops ih =>
    intro s r i hs hn h
    obtain ⟨r1, r2, h1, h2, rfl⟩ := run_cons h
    obtain ⟨i1, -, hl⟩ := step_ok c s op r1 i h1
    have := hl (hn op (by simp))
    exact ih r1.1 r2 i1 (by omega) (fun o ho => hn o (by simp [ho])) h2

theorem idle_run (c : Cfg) (ops : List Op) : ∀ (s : T) (r : T × List Obs), s.running = false →
    (∀ op ∈ ops, op = .clock ∨ (∃ t, op = .to t) ∨ ∃ d, op = .stall d) → run c s ops = some r →
    r.2 = [] ∧ r.1.running = false ∧ r.1.resume = s.resume ∧ r.1.ticks = s.ticks := by
  induction ops with
  | nil => intro s r hrun _ h; simp [run] at h; subst h; exact ⟨rfl, hrun, rfl, rfl⟩
  | cons op ops ih =>
    intro s r hrun hops h
    obtain ⟨r1, r2, h1, h2, rfl⟩ := run_cons h
    have key : r1.2 = [] ∧ r1.1.running = false ∧ r1.1.resume = s.resume ∧ r1.1.ticks = s.ticks := by
      rcases hops op (by simp) with rfl | ⟨t, rfl⟩ | ⟨d, rfl⟩
      · obtain ⟨_, -, hr, -⟩ := step_clock h1
        rw [hrun] at hr; cases hr
      · obtain ⟨-, _, rfl, -⟩ := step_to h1
        exact ⟨rfl, hrun, rfl, rfl⟩
      · obtain rfl := Option.some.inj h1
        exact ⟨rfl, hrun, rfl, rfl⟩
    obtain ⟨a1, a2, a3, a4⟩ := ih r1.1 r2 key.2.1 (fun o ho => hops o (by simp [ho])) h2
    exact ⟨by simp [key.1, a1], a2, a3.trans key.2.2.1, a4.trans key.2.2.2⟩

theorem removed_silent (c : Cfg) (s : T) (r : T × List Obs) (h : step c s .removed = some r) :
    r.2 = [⟨.stopped, s.ticks⟩] ∧ r.1.running = false ∧ r.1.resume = none ∧ step c r.1 .resumeFire = none ∧
    ∀ ops r', (∀ op ∈ ops, op = .clock ∨ (∃ t, op = .to t) ∨ ∃ d, op = .stall d) → run c r.1 ops = some r' →
      r'.2 = [] ∧ r'.1.running = false ∧ r'.1.resume = none ∧ r'.1.ticks = s.ticks := by
  obtain rfl := Option.some.inj h
  exact ⟨rfl, rfl, rfl, by simp [step, doStop], fun ops r' hops hrun => idle_run c ops (doStop s).1 r' rfl hops hrun⟩

end MpfVerif.TimerDevice
