import MpfVerif.Lemmas.Show
/-! C17: counting the show events of one play instance. -/
namespace MpfVerif.Show

/-- number of times the show event `e` is posted in a trace -/
def cntE (e : Ev) : List Obs → Nat
  | [] => 0
  | Obs.ev e' :: r => (if e' = e then 1 else 0) + cntE e r
  | Obs.eff _ _ :: r => cntE e r
  | Obs.clr :: r => cntE e r

theorem cntE_append (e : Ev) (a b : List Obs) : cntE e (a ++ b) = cntE e a + cntE e b := by
  induction a with
  | nil => simp [cntE]
  | cons x r ih => cases x <;> simp [cntE, ih, Nat.add_assoc]

theorem cntE_evs (e : Ev) (l : List Ev) : cntE e (l.map Obs.ev) = l.count e := by
  induction l with
  | nil => rfl
  | cons x r ih => simp only [List.map_cons, cntE, ih, List.count_cons, beq_iff_eq]; omega

theorem cntE_clr (e : Ev) (c : Bool) : cntE e (if c then [Obs.clr] else []) = 0 := by cases c <;> rfl

theorem cntE_onlyPaused (e : Ev) (he : e ≠ .paused) (l : List Obs) (h : onlyPaused l) : cntE e l = 0 := by
  induction l with
  | nil => rfl
  | cons x r ih =>
    obtain rfl := h x List.mem_cons_self
    simp only [cntE, if_neg he.symm, Nat.zero_add]
    exact ih fun o ho => h o (List.mem_cons_of_mem _ ho)

/-- what one `_run_next_step` of a running show emits: either one step (with `looped` iff the show wrapped, the loop
budget going down by one), or — loop budget exhausted — the clean-up, `stopped`, the request's own events, `completed` -/
def RunRes (s : RS) (post : List Ev) (r : RS × List Obs) : Prop :=
  (r.1.stopped = false ∧ ∃ i t lp, r.2 = Obs.eff i t :: (post ++ lp).map Obs.ev ∧
    ((lp = [] ∧ r.1.loops = s.loops) ∨
     (lp = [Ev.looped] ∧ ((s.loops = none ∧ r.1.loops = none) ∨ ∃ n, s.loops = some (n + 1) ∧ r.1.loops = some n)))) ∨
  (r.1.stopped = true ∧ r.1.loops = s.loops ∧ s.loops = some 0 ∧
    r.2 = (if s.dirty then [Obs.clr] else []) ++ [Obs.ev .stopped] ++ (post ++ [Ev.completed]).map Obs.ev)

theorem runNext_out (s : RS) (post : List Ev) (pa : Bool) (hs : s.stopped = false) :
    RunRes s post (runNext s post pa) := by
  refine runNext_elim (C := RunRes s post) s post pa hs ?_ ?_ ?_ ?_
  · intro _
    exact Or.inl ⟨by simp [hs], (curStep s).toNat, s.nextTime, [], by simp, Or.inl ⟨rfl, by simp⟩⟩
  · intro _ hl
    exact Or.inl ⟨by simp [hs], 0, s.nextTime, [Ev.looped], by simp, Or.inr ⟨rfl, Or.inl ⟨hl, by simp [hl]⟩⟩⟩
  · intro n _ hl
    exact Or.inl ⟨by simp [hs], 0, s.nextTime, [Ev.looped], by simp, Or.inr ⟨rfl, Or.inr ⟨n, hl, by simp⟩⟩⟩
  · intro _ hl
    exact Or.inr ⟨by simp, by simp, hl, by simp [stop_out s hs]⟩

/-- the loop budget: `n0` loops were granted; every `looped` consumed one -/
def LoopAcc (n0 : Option Nat) (s : RS) (tr : List Obs) : Prop :=
  match n0, s.loops with
  | some n, some m => cntE .looped tr + m = n
  | none, none => True
  | _, _ => False

/-- the event ledger of one play instance -/
def Ledger (n0 : Option Nat) (s : RS) (tr : List Obs) : Prop :=
  cntE .played tr = (if s.started then 1 else 0) ∧ cntE .stopped tr = (if s.stopped then 1 else 0) ∧
  cntE .completed tr ≤ cntE .stopped tr ∧ LoopAcc n0 s tr ∧ (s.pending = true → s.started = false)

theorem Ledger.played {n0 : Option Nat} {s : RS} {tr : List Obs} (h : Ledger n0 s tr) :
    cntE .played tr = if s.started then 1 else 0 := h.1

theorem Ledger.stopped {n0 : Option Nat} {s : RS} {tr : List Obs} (h : Ledger n0 s tr) :
    cntE .stopped tr = if s.stopped then 1 else 0 := h.2.1

theorem Ledger.completed {n0 : Option Nat} {s : RS} {tr : List Obs} (h : Ledger n0 s tr) :
    cntE .completed tr ≤ cntE .stopped tr := h.2.2.1

theorem Ledger.loops {n0 : Option Nat} {s : RS} {tr : List Obs} (h : Ledger n0 s tr) : LoopAcc n0 s tr := h.2.2.2.1

theorem Ledger.waiting {n0 : Option Nat} {s : RS} {tr : List Obs} (h : Ledger n0 s tr) :
    s.pending = true → s.started = false := h.2.2.2.2

theorem Ledger.append {n0 : Option Nat} {s s' : RS} {tr out : List Obs} (h : Ledger n0 s tr)
    (played : cntE .played out + (if s.started then 1 else 0) = if s'.started then 1 else 0)
    (stopped : cntE .stopped out + (if s.stopped then 1 else 0) = if s'.stopped then 1 else 0)
    (completed : cntE .completed out ≤ cntE .stopped out) (loops : LoopAcc s.loops s' out)
    (waiting : s'.pending = true → s'.started = false) : Ledger n0 s' (tr ++ out) := by
  obtain ⟨a, b, c, d, _⟩ := h
  refine ⟨by rw [cntE_append, a, ← played, Nat.add_comm], by rw [cntE_append, b, ← stopped, Nat.add_comm],
    by rw [cntE_append, cntE_append]; exact Nat.add_le_add c completed, ?_, waiting⟩
  unfold LoopAcc at d loops ⊢
  rw [cntE_append]
  generalize s.loops = a at d loops
  generalize s'.loops = b at loops ⊢
  match n0, a, b, d, loops with
  | some n, some m, some k, d, hl => show _ + _ + k = n; omega
  | none, none, none, _, _ => trivial

theorem ledger_same (n0 : Option Nat) (s s' : RS) (tr out : List Obs) (h : Ledger n0 s tr)
    (hs : s'.stopped = s.stopped) (hl : s'.loops = s.loops) (hg : s'.started = s.started ∧ s'.pending = s.pending)
    (h0 : cntE .played out = 0 ∧ cntE .stopped out = 0 ∧ cntE .completed out = 0 ∧ cntE .looped out = 0) :
    Ledger n0 s' (tr ++ out) :=
  h.append (by rw [h0.1, hg.1, Nat.zero_add]) (by rw [h0.2.1, hs, Nat.zero_add]) (by rw [h0.2.2.1]; exact Nat.zero_le _)
    (by unfold LoopAcc; rw [hl, h0.2.2.2]; cases s.loops <;> simp) (by rw [hg.1, hg.2]; exact h.waiting)

theorem ledger_init (s : RS) (h1 : s.started = false) (h2 : s.stopped = false) : Ledger s.loops s [] :=
  ⟨by rw [h1]; rfl, by rw [h2]; rfl, Nat.le_refl _, by unfold LoopAcc; cases s.loops <;> simp [cntE], fun _ => h1⟩

/-- a request's own events besides `played` -/
def IsAck' (post : List Ev) : Prop :=
  post.count .stopped = 0 ∧ post.count .completed = 0 ∧ post.count .looped = 0

instance : DecidablePred IsAck' := fun _ => by unfold IsAck'; infer_instance

/-- the events in the output of a step that was played: the request's own, and `lp` (`looped` on a wrap) -/
theorem cntE_stepOut (e : Ev) (i t : Nat) (post lp : List Ev) :
    cntE e (Obs.eff i t :: (post ++ lp).map Obs.ev) = post.count e + lp.count e :=
  (cntE_evs e _).trans List.count_append

/-- the events in the output of the step that completes the show -/
theorem cntE_doneOut (e : Ev) (c : Bool) (post : List Ev) :
    cntE e ((if c then [Obs.clr] else []) ++ [Obs.ev .stopped] ++ (post ++ [Ev.completed]).map Obs.ev) =
      (if e = .stopped then 1 else 0) + (post.count e + if e = .completed then 1 else 0) := by
  rw [cntE_append, cntE_append, cntE_clr, cntE_evs, List.count_append]
  cases e <;> rfl

/-- `s0` is `s` up to position and clock, or `s` just started (then `post` is `played`): the ledger is known of `s` only -/
theorem ledger_runNext (n0 : Option Nat) (s s0 : RS) (post : List Ev) (pa : Bool) (tr : List Obs) (h : Ledger n0 s tr)
    (hs : s.stopped = false) (hs0 : s0.stopped = false) (hl : s0.loops = s.loops) (hp : IsAck' post)
    (hpl : post.count .played + (if s.started then 1 else 0) = if s0.started then 1 else 0)
    (hg : s0.pending = true → s0.started = false) :
    Ledger n0 (runNext s0 post pa).1 (tr ++ (runNext s0 post pa).2) := by
  obtain ⟨hst, hco, hlo⟩ := hp
  have waiting : (runNext s0 post pa).1.pending = true → (runNext s0 post pa).1.started = false := by
    rw [runNext_pending, runNext_started]; exact hg
  rcases runNext_out s0 post pa hs0 with ⟨hrs, i, t, lp, hout, hlp⟩ | ⟨hrs, hrl, hl0, hout⟩
  · -- a step was played; `lp` is `[looped]` exactly when a loop was consumed
    have cnt : ∀ e, cntE e (runNext s0 post pa).2 = post.count e + lp.count e := fun e => by
      rw [hout]; exact cntE_stepOut e i t post lp
    have lp0 : ∀ e, e ≠ Ev.looped → lp.count e = 0 := fun e he => by
      rcases hlp with ⟨rfl, _⟩ | ⟨rfl, _⟩
      · rfl
      · exact List.count_eq_zero.mpr (by simpa using he)
    refine h.append (played := ?_) (stopped := ?_) (completed := ?_) (loops := ?_) (waiting := waiting)
    · rw [cnt, lp0 _ (by decide), Nat.add_zero, runNext_started]; exact hpl
    · rw [cnt, lp0 _ (by decide), hst, hrs, hs]; rfl
    · rw [cnt, cnt, lp0 _ (by decide), hco]; exact Nat.zero_le _
    · unfold LoopAcc
      rw [← hl, cnt, hlo, Nat.zero_add]
      rcases hlp with ⟨rfl, h1⟩ | ⟨rfl, ⟨h1, h2⟩ | ⟨n, h1, h2⟩⟩
      · rw [h1]; cases s0.loops <;> simp
      · rw [h1, h2]; trivial
      · rw [h1, h2]; exact Nat.add_comm 1 n
  · -- out of loops: clean-up, `stopped`, the request's events, `completed`
    have cnt := fun e => (congrArg (cntE e) hout).trans (cntE_doneOut e s0.dirty post)
    refine h.append (played := ?_) (stopped := ?_) (completed := ?_) (loops := ?_) (waiting := waiting)
    · rw [cnt, runNext_started]; simpa using hpl
    · rw [cnt, hst, hrs, hs]; rfl
    · rw [cnt, cnt, hco, hst]; exact Nat.le_refl _
    · unfold LoopAcc
      rw [← hl, hrl, hl0, cnt, hlo]
      rfl

theorem stop_ledger (n0 : Option Nat) (s : RS) (tr : List Obs) (h : Ledger n0 s tr) :
    Ledger n0 (stop s).1 (tr ++ (stop s).2) := by
  cases hs : s.stopped with
  | true => rw [stop_of_stopped s hs, List.append_nil]; exact h
  | false =>
    have c : ∀ e, cntE e (stop s).2 = if e = .stopped then 1 else 0 := fun e => by
      rw [stop_out s hs]; cases s.dirty <;> cases e <;> rfl
    exact h.append (by rw [c, stop_started]; exact Nat.zero_add _) (by rw [c, stop_stopped, hs]; rfl)
      (by rw [c, c]; exact Nat.zero_le _) (by unfold LoopAcc; rw [stop_loops, c]; cases s.loops <;> simp)
      (by rw [stop_pending, stop_started]; exact h.waiting)

theorem body_ledger {s : RS} {post : List Ev} {r : RS × List Obs} (hb : Body s post r) (n0 : Option Nat) (tr : List Obs)
    (hp : IsAck' post) (hpl : post.count .played = 0) (h : Ledger n0 s tr) : Ledger n0 r.1 (tr ++ r.2) := by
  cases hb with
  | stopped => simpa using h
  | start _ hs hpe => exact ledger_runNext n0 s _ _ _ tr h hs hs rfl (by decide) (by simp [h.waiting hpe]) (by simp)
  | next _ _ hs => exact ledger_runNext n0 s _ _ _ tr h hs hs rfl hp (by rw [hpl, Nat.zero_add]) h.waiting

theorem reqEv_ack {ev : Ev} (h : ev ∈ [Ev.resumed, .advanced, .steppedBack]) : IsAck' [ev] ∧ [ev].count .played = 0 := by
  simp only [List.mem_cons, List.not_mem_nil, or_false] at h
  rcases h with rfl | rfl | rfl <;> decide

theorem step_ledger (n0 : Option Nat) (s : RS) (o : Op) (tr : List Obs) (hp : o.isPlay = false)
    (h : Ledger n0 s tr) : Ledger n0 (step s o).1 (tr ++ (step s o).2) := by
  have cancelled : ∀ t out, cntE .played out = 0 ∧ cntE .stopped out = 0 ∧ cntE .completed out = 0 ∧ cntE .looped out = 0 →
      Ledger n0 (cancelHandle (setNow s t)) (tr ++ out) := fun t out =>
    ledger_same n0 s _ tr out h (cancel_stopped _) (cancel_loops _) ⟨cancel_started _, cancel_pending _⟩
  refine step_elim (C := fun r => Ledger n0 r.1 (tr ++ r.2)) s o hp ?_ ?_ ?_ ?_ ?_
  · intro _ _ _; exact ledger_same n0 s _ tr [] h rfl rfl ⟨rfl, rfl⟩ ⟨rfl, rfl, rfl, rfl⟩
  · intro t; exact cancelled t _ ⟨rfl, rfl, rfl, rfl⟩
  · intro t; exact stop_ledger n0 (setNow s t) tr h
  · intro t ev r hev hb
    exact body_ledger hb n0 tr (reqEv_ack hev).1 (reqEv_ack hev).2 (by simpa using cancelled t [] ⟨rfl, rfl, rfl, rfl⟩)
  · intro t tm r _ hb; exact body_ledger hb n0 tr (by decide) rfl h

theorem run_ledger (n0 : Option Nat) (ops : List Op) (s : RS) (tr : List Obs) (hp : ∀ o ∈ ops, o.isPlay = false)
    (h : Ledger n0 s tr) : Ledger n0 (run s ops).1 (tr ++ (run s ops).2) :=
  run_induct (fun s tr o => step_ledger n0 s o tr) ops s tr hp h

theorem startPlay_ledger (s0 : RS) (running : Bool) (sync : Nat) (hst : s0.started = false) (hs : s0.stopped = false)
    (hp : s0.pending = false) : Ledger s0.loops (startPlay s0 running sync).1 (startPlay s0 running sync).2 := by
  have h0 := ledger_init s0 hst hs
  unfold startPlay
  split
  · simpa using ledger_runNext s0.loops s0 { s0 with started := true } [.played] (!running) [] h0 hs hs rfl (by decide)
      (by simp [hst]) (by simp [hp])
  · exact ⟨by simp [cntE, hst], by simp [cntE, hs], Nat.le_refl _, h0.loops, fun _ => hst⟩

theorem play_ledger (durs : List Nat) (num den : Nat) (loops : Option Nat) (start : Int) (running manual : Bool)
    (sync t : Nat) :
    Ledger loops (step {} (.play durs num den loops start running manual sync t)).1
      (step {} (.play durs num den loops start running manual sync t)).2 := by
  rw [step_play_init]
  exact startPlay_ledger _ _ _ rfl rfl rfl

/-- shape of the output of the step that stops a show -/
def StopShape (out : List Obs) : Prop :=
  ∃ pre post, out = pre ++ Obs.ev .stopped :: post ∧ (∀ x ∈ pre, x = Obs.clr) ∧
    (post = [] ∨ ∃ acks, post = acks.map Obs.ev ++ [Obs.ev .completed] ∧ IsAck' acks)

theorem clr_only (c : Bool) : ∀ x ∈ (if c then [Obs.clr] else []), x = Obs.clr := by cases c <;> simp

theorem runNext_stop_shape (s : RS) (post : List Ev) (pa : Bool) (hs : s.stopped = false) (hp : IsAck' post) :
    (runNext s post pa).1.stopped = true → StopShape (runNext s post pa).2 := by
  intro h
  rcases runNext_out s post pa hs with ⟨hrs, _⟩ | ⟨_, _, _, hout⟩
  · rw [hrs] at h; cases h
  · exact ⟨_, _, by rw [hout, List.append_assoc]; rfl, clr_only _, Or.inr ⟨post, by simp, hp⟩⟩

theorem body_stop_shape {s : RS} {post : List Ev} {r : RS × List Obs} (hb : Body s post r) (hs : s.stopped = false)
    (hp : IsAck' post) : r.1.stopped = true → StopShape r.2 := by
  cases hb with
  | stopped h => cases hs.symm.trans h
  | start => exact runNext_stop_shape _ _ _ hs (by decide)
  | next => exact runNext_stop_shape _ _ _ hs hp

theorem step_stop_shape (s : RS) (o : Op) (hp : o.isPlay = false) (hs : s.stopped = false)
    (h : (step s o).1.stopped = true) : StopShape (step s o).2 := by
  have no : ∀ {P : Prop}, s.stopped = true → P := fun h => by cases hs.symm.trans h
  revert h
  refine step_elim (C := fun r => r.1.stopped = true → StopShape r.2) s o hp ?_ ?_ ?_ ?_ ?_
  · intro _ _ _; exact no
  · intro t h; exact no ((cancel_stopped (setNow s t)).symm.trans h)
  · intro t _; exact ⟨_, [], stop_out (setNow s t) hs, clr_only _, Or.inl rfl⟩
  · intro t ev r hev hb; exact body_stop_shape hb ((cancel_stopped _).trans hs) (reqEv_ack hev).1
  · intro t tm r _ hb; exact body_stop_shape hb hs (by decide)

end MpfVerif.Show
