import MpfVerif.Model.BallLedger
import MpfVerif.Lemmas.Ite
/-! Helper lemmas for the ball ledger (C04, C05): `bump` / `setAt`; conservation and bounds, each read on the vectors it
mentions, with the moves that preserve it. -/
namespace MpfVerif.BallLedger

macro "guards" h:ident : tactic =>
  `(tactic| simp only [Bool.and_eq_true, Bool.or_eq_true, decide_eq_true_eq, Bool.not_eq_true', beq_iff_eq] at $h:ident)

theorem total_bump (l : List Int) (i : Nat) (d : Int) (h : i < l.length) : total (bump l i d) = total l + d := by
  induction l generalizing i with
  | nil => simp at h
  | cons x xs ih =>
    cases i with
    | zero => simp [bump]; omega
    | succ i => simp [bump, ih i (by simpa using h)]; omega

theorem bump_eq_modify (l : List Int) (i : Nat) (d : Int) : bump l i d = l.modify i (· + d) := by
  induction l generalizing i with
  | nil => simp [bump]
  | cons x xs ih => cases i <;> simp [bump, ih]

theorem setAt_eq_set {α : Type} (l : List α) (i : Nat) (v : α) : setAt l i v = l.set i v := by
  induction l generalizing i with
  | nil => rfl
  | cons x xs ih => cases i <;> simp [setAt, ih]

@[simp] theorem length_bump (l : List Int) (i : Nat) (d : Int) : (bump l i d).length = l.length := by
  rw [bump_eq_modify, List.length_modify]

@[simp] theorem length_setAt {α : Type} (l : List α) (i : Nat) (v : α) : (setAt l i v).length = l.length := by
  rw [setAt_eq_set, List.length_set]

theorem getD_bump (l : List Int) (i j : Nat) (d : Int) :
    (bump l i d).getD j 0 = if j = i ∧ i < l.length then l.getD j 0 + d else l.getD j 0 := by
  rw [bump_eq_modify, List.getD_eq_getElem?_getD, List.getD_eq_getElem?_getD, List.getElem?_modify]
  by_cases h : i = j
  · subst h
    by_cases h' : i < l.length <;> simp [h']
  · simp [h, Ne.symm h]

theorem getD_setAt {α : Type} (l : List α) (i j : Nat) (v dflt : α) :
    (setAt l i v).getD j dflt = if j = i ∧ i < l.length then v else l.getD j dflt := by
  rw [setAt_eq_set, List.getD_eq_getElem?_getD, List.getD_eq_getElem?_getD, List.getElem?_set]
  by_cases h : i = j
  · subst h
    by_cases h' : i < l.length <;> simp [h']
  · simp [h, Ne.symm h]

theorem total_move (l : List Int) {i j : Nat} (hi : i < l.length) (hj : j < l.length) :
    total (bump (bump l i (-1)) j 1) = total l := by
  rw [total_bump _ _ _ (by rwa [length_bump]), total_bump _ _ _ hi]
  omega

theorem total_replicate_zero (n : Nat) : total (List.replicate n 0) = 0 := by
  induction n with
  | zero => rfl
  | succ n ih => simp [List.replicate_succ, ih]

theorem run_induction {c : Cfg} {P : St → Prop} (hstep : ∀ s s' op, step c s op = some s' → P s → P s')
    (ops : List Op) (s s' : St) (h : run c s ops = some s') (hs : P s) : P s' := by
  induction ops generalizing s with
  | nil => cases h; exact hs
  | cons op rest ih =>
    simp only [run] at h
    split at h
    · exact ih _ h (hstep _ _ _ ‹_› hs)
    · cases h

structure WF (c : Cfg) (s : St) : Prop where
  hb : s.balls.length = c.n
  hc : s.counted.length = c.n
  ha : s.avail.length = c.n

/-- the two conservation laws, with the lengths that make them an induction invariant -/
def Conserved (c : Cfg) (s : St) : Prop :=
  WF c s ∧ total s.avail = s.known ∧ total s.balls + s.inflight = s.known

structure Ledger (n : Nat) (B C A : List Int) (fl kn : Int) : Prop where
  hb : B.length = n
  hc : C.length = n
  ha : A.length = n
  claims : total A = kn
  beliefs : total B + fl = kn

theorem conserved_iff {c : Cfg} {s : St} : Conserved c s ↔ Ledger c.n s.balls s.counted s.avail s.inflight s.known :=
  ⟨fun ⟨⟨h1, h2, h3⟩, h4, h5⟩ => ⟨h1, h2, h3, h4, h5⟩, fun ⟨h1, h2, h3, h4, h5⟩ => ⟨⟨h1, h2, h3⟩, h4, h5⟩⟩

namespace Ledger
variable {n : Nat} {B C A : List Int} {fl kn : Int} (h : Ledger n B C A fl kn) {d i j : Nat}
include h

theorem count (d : Nat) (k : Int) : Ledger n B (bump C d k) A fl kn :=
  { h with hc := by rw [length_bump, h.hc] }

theorem claim (hi : i < n) (hj : j < n) : Ledger n B C (bump (bump A i (-1)) j 1) fl kn :=
  { h with ha := by simp [h.ha]
           claims := by rw [total_move _ (h.ha ▸ hi) (h.ha ▸ hj), h.claims] }

theorem leave (hd : d < n) : Ledger n (bump B d (-1)) C A (fl + 1) kn :=
  { h with hb := by simp [h.hb]
           beliefs := by rw [total_bump _ _ _ (h.hb ▸ hd), ← h.beliefs]; omega }

theorem land (hd : d < n) : Ledger n (bump B d 1) C A (fl - 1) kn :=
  { h with hb := by simp [h.hb]
           beliefs := by rw [total_bump _ _ _ (h.hb ▸ hd), ← h.beliefs]; omega }

theorem move (hi : i < n) (hj : j < n) : Ledger n (bump (bump B i (-1)) j 1) C A fl kn :=
  { h with hb := by simp [h.hb]
           beliefs := by rw [total_move _ (h.hb ▸ hi) (h.hb ▸ hj), h.beliefs] }

theorem found (hd : d < n) : Ledger n (bump B d 1) C (bump A d 1) fl (kn + 1) :=
  { h with hb := by simp [h.hb]
           ha := by simp [h.ha]
           claims := by rw [total_bump _ _ _ (h.ha ▸ hd), h.claims]
           beliefs := by rw [total_bump _ _ _ (h.hb ▸ hd), ← h.beliefs]; omega }

end Ledger

theorem init_conserved (c : Cfg) (counts : List Int) (hl : counts.length = c.n) : Conserved c (initSt c counts) :=
  ⟨⟨hl, hl, hl⟩, rfl, Int.add_zero _⟩

def Bounded (c : Cfg) (s : St) : Prop :=
  ∀ i, c.isPf i = false → 0 ≤ s.b i ∧ s.b i ≤ s.c i ∧ s.c i ≤ c.capOf i

structure Bnd (c : Cfg) (B C : List Int) : Prop where
  len : B.length = C.length
  node : ∀ i, c.isPf i = false → 0 ≤ B.getD i 0 ∧ B.getD i 0 ≤ C.getD i 0 ∧ C.getD i 0 ≤ c.capOf i

namespace Bnd
variable {c : Cfg} {B C : List Int} (h : Bnd c B C) {d : Nat}
include h

theorem pf (hm : c.isPf d = true) (k : Int) : Bnd c (bump B d k) C :=
  ⟨(length_bump ..).trans h.len, fun i hi => by
    rw [getD_bump, if_neg (fun e => by simp [e.1, hm] at hi)]
    exact h.node i hi⟩

theorem leave (hd : 0 < B.getD d 0) : Bnd c (bump B d (-1)) C :=
  ⟨(length_bump ..).trans h.len, fun i hi => by
    have := h.node i hi
    rw [getD_bump]
    split
    · rename_i e; rw [e.1] at this ⊢; omega
    · exact this⟩

theorem back (hd : B.getD d 0 < C.getD d 0) : Bnd c (bump B d 1) C :=
  ⟨(length_bump ..).trans h.len, fun i hi => by
    have := h.node i hi
    rw [getD_bump]
    split
    · rename_i e; rw [e.1] at this ⊢; omega
    · exact this⟩

theorem uncount (hd : B.getD d 0 < C.getD d 0) : Bnd c B (bump C d (-1)) :=
  ⟨h.len.trans (length_bump ..).symm, fun i hi => by
    have := h.node i hi
    rw [getD_bump]
    split
    · rename_i e; rw [e.1] at this ⊢; omega
    · exact this⟩

theorem enter (hd : C.getD d 0 < c.capOf d) : Bnd c (bump B d 1) (bump C d 1) :=
  ⟨by simp [h.len], fun i hi => by
    have := h.node i hi
    rw [getD_bump, getD_bump, h.len]
    split
    · rename_i e; rw [e.1] at this ⊢; omega
    · exact this⟩

theorem lose (hd : 0 < B.getD d 0) : Bnd c (bump B d (-1)) (bump C d (-1)) :=
  ⟨by simp [h.len], fun i hi => by
    have := h.node i hi
    rw [getD_bump, getD_bump, h.len]
    split
    · rename_i e; rw [e.1] at this ⊢; omega
    · exact this⟩

end Bnd

end MpfVerif.BallLedger
