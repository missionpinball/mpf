import MpfVerif.Model.BcpGen
import MpfVerif.Lemmas.Bcp
/-! The table-driven encoder / decoder (`Model/BcpGen.lean`, tables regenerated from the source) ARE the hand model's. -/
namespace MpfVerif.Bcp
open MpfVerif.Gen

theorem quoteWith_nil (l : Bytes) : quoteWith [] l = quote l := by
  induction l with
  | nil => rfl
  | cons b r ih => simp [quoteWith, quote, ih]

theorem encodeValueT_eq (v : Val) : encodeValueT v = encodeValue v := by
  rw [encodeValueT, BcpTables.quoteSafeValue, quoteWith_nil, BcpTables.encChain]
  -- walk the `isinstance` chain with the constructor known
  cases v with
  | bool b => cases b <;> rfl
  | none => rfl
  | str s => simp [encodeBy, Val.isInstance, Val.pyStr, encodeValue]
  | int i => simp [encodeBy, Val.isInstance, Val.pyStr, encodeValue, pInt]
  | flt t => simp [encodeBy, Val.isInstance, Val.pyStr, encodeValue, pFloat]

theorem encodePairT_eq (kv : Bytes × Val) : encodePairT kv = some (encodePair kv ++ [38]) := by
  simp [encodePairT, BcpTables.pairFormat, BcpTables.quoteSafeKey, quoteWith_nil, encodeValueT_eq, encodePair]

theorem concatOpt_some (l : List Bytes) : concatOpt (l.map some) = some l.flatten := by
  induction l with
  | nil => rfl
  | cons x r ih => simp [concatOpt, ih]

theorem encodeFlatT_eq (cmd : Bytes) (kw : List (Bytes × Val)) : encodeFlatT cmd kw = some (encodeFlat cmd kw) := by
  unfold encodeFlatT encodeFlat
  have e : kw.map encodePairT = ((kw.map encodePair).map (· ++ [38])).map some := by simp [encodePairT_eq]
  rw [e, concatOpt_some, flatten_amp]
  cases kw with
  | nil => simp [BcpTables.trailingCut]
  | cons kv r =>
    have hne := joinAmp_pairs_isEmpty (kv :: r)
    simp only [List.map_cons, List.isEmpty_cons, List.isEmpty_eq_false_iff] at hne ⊢
    simp [BcpTables.trailingCut, hne]

theorem replace1_plus (l : Bytes) : replace1 ([43], [32]) l = some (plusToSpace l) := rfl

theorem decodeValueT_eq (raw : Bytes) : decodeValueT raw = decodeValue raw := by
  unfold decodeValueT decodeValue
  simp only [BcpTables.valueReplace, replace1_plus, BcpTables.decChain, decodeBy, decodeArm, pInt, pFloat, sBoolTrue,
    sBoolFalse, sNone]
  by_cases h1 : ([105, 110, 116, 58] : Bytes).isPrefixOf raw = true
  · simp [h1]
  · by_cases h2 : ([102, 108, 111, 97, 116, 58] : Bytes).isPrefixOf raw = true
    · simp [h1, h2]
    · by_cases h3 : toLower raw = [98, 111, 111, 108, 58, 116, 114, 117, 101]
      · simp [h1, h2, h3]
      · by_cases h4 : toLower raw = [98, 111, 111, 108, 58, 102, 97, 108, 115, 101]
        · simp [h1, h2, h4]
        · by_cases h5 : raw = [78, 111, 110, 101, 84, 121, 112, 101, 58]
          · subst h5; rfl
          · simp [h1, h2, h3, h4, h5]

theorem decodePairsT_eq (ps : List Bytes) (acc : List (Bytes × Val)) : decodePairsT 61 ps acc = decodePairs ps acc := by
  induction ps generalizing acc with
  | nil => rfl
  | cons p r ih =>
    unfold decodePairsT decodePairs
    simp only [BcpTables.nameReplace, replace1_plus, decodeValueT_eq, ih]
    split
    · rfl
    · split
      · rfl
      · cases decodeValue ((splitFirst 61 p).2.getD []) <;> rfl

theorem decodeT_eq (line : Bytes) : decodeT line = decode line := by
  unfold decodeT decode
  simp only [BcpTables.jsonTestLo, BcpTables.jsonTestHi, BcpTables.jsonTest, BcpTables.jsonDrop, BcpTables.splitSep,
    BcpTables.partSep, sepOf, List.drop_zero, Nat.sub_zero, decodePairsT_eq, take5_json]
  split
  · rfl
  · cases decodePairs (splitAll 38 ((splitFirst 63 line).2.getD [])) [] <;> rfl

theorem markerOfT_eq (line : Bytes) : markerOfT line = markerOf line := rfl

end MpfVerif.Bcp
