import MpfVerif.Model.Switch
/-! Invariants of the switch-controller model (one switch) and their preservation by every step. -/
namespace MpfVerif.Switch

def keys (l : List (Nat × List TEntry)) : List Nat := l.map (·.1)

section Keyed
variable {l : List (Nat × List TEntry)} {k key : Nat} {e x : TEntry}

@[simp] theorem keys_cons (kv : Nat × List TEntry) : keys (kv :: l) = kv.1 :: keys l := rfl

theorem minKey_eq_min (l : List (Nat × List TEntry)) : minKey l = (keys l).min? := by
  induction l with
  | nil => rfl
  | cons kv r ih =>
    obtain ⟨k, es⟩ := kv
    rw [minKey, ih, keys_cons, List.min?_cons]
    cases (keys r).min? <;> simp [Nat.min_def]

theorem minKey_none : minKey l = none ↔ l = [] := by
  rw [minKey_eq_min, List.min?_eq_none_iff, keys, List.map_eq_nil_iff]

theorem minKey_iff {m : Nat} : minKey l = some m ↔ m ∈ keys l ∧ ∀ k ∈ keys l, m ≤ k := by
  rw [minKey_eq_min, List.min?_eq_some_iff]

theorem minKey_eq {l : List (Nat × List TEntry)} {m : Nat} (h1 : m ∈ keys l) (h2 : ∀ k ∈ keys l, m ≤ k) :
    minKey l = some m :=
  minKey_iff.mpr ⟨h1, h2⟩

theorem mem_keys_insert : k ∈ keys (insertTimed key e l) ↔ k = key ∨ k ∈ keys l := by
  induction l with
  | nil => simp [insertTimed]
  | cons kv r ih =>
    obtain ⟨k0, es⟩ := kv
    rw [insertTimed]
    split
    · rename_i c; simp [← c]
    · simp only [keys_cons, List.mem_cons, ih]; exact or_left_comm

theorem minKey_insert (key : Nat) (e : TEntry) (l : List (Nat × List TEntry)) :
    minKey (insertTimed key e l) = some ((minKey l).elim key (min key)) := by
  cases h : minKey l with
  | none => rw [minKey_none.mp h]; rfl
  | some m =>
    obtain ⟨m1, m2⟩ := minKey_iff.mp h
    refine minKey_iff.mpr ⟨mem_keys_insert.mpr ?_, fun k hk => ?_⟩
    · by_cases c : key ≤ m
      · exact .inl (Nat.min_eq_left c)
      · exact .inr (by rw [Option.elim, Nat.min_eq_right (by omega)]; exact m1)
    · rcases mem_keys_insert.mp hk with rfl | hk
      · exact Nat.min_le_left ..
      · exact Nat.le_trans (Nat.min_le_right ..) (m2 k hk)

theorem keys_mapSnd (f : List TEntry → List TEntry) : keys (l.map (fun kv => (kv.1, f kv.2))) = keys l := by
  simp [keys, List.map_map, Function.comp_def]

theorem minKey_mapSnd (f : List TEntry → List TEntry) : minKey (l.map (fun kv => (kv.1, f kv.2))) = minKey l := by
  rw [minKey_eq_min, minKey_eq_min, keys_mapSnd]

theorem mem_keys_eraseT {k' : Nat} (h : k' ∈ keys (eraseT k l)) : k' ∈ keys l := by
  obtain ⟨kv, hkv, rfl⟩ := List.mem_map.mp h
  exact List.mem_map.mpr ⟨kv, (List.mem_filter.mp hkv).1, rfl⟩

def Pending (l : List (Nat × List TEntry)) (k : Nat) (e : TEntry) : Prop := ∃ kv ∈ l, kv.1 = k ∧ e ∈ kv.2

theorem pending_cons {kv : Nat × List TEntry} : Pending (kv :: l) k e ↔ (kv.1 = k ∧ e ∈ kv.2) ∨ Pending l k e := by
  simp only [Pending, List.mem_cons, or_and_right, exists_or, exists_eq_left]

theorem pending_insert : Pending (insertTimed key e l) k x ↔ (k = key ∧ x = e) ∨ Pending l k x := by
  induction l with
  | nil => simp [insertTimed, Pending, eq_comm]
  | cons kv r ih =>
    obtain ⟨k0, es⟩ := kv
    rw [insertTimed]
    split
    · rename_i c
      subst c
      simp only [pending_cons, List.mem_append, List.mem_singleton, and_or_left, eq_comm (a := k)]
      rw [or_assoc, or_left_comm]
    · simp only [pending_cons, ih]; exact or_left_comm

theorem pending_of_lookupT (h : e ∈ lookupT k l) : Pending l k e := by
  induction l with
  | nil => cases h
  | cons kv r ih =>
    obtain ⟨k', es⟩ := kv
    rw [lookupT] at h
    split at h
    · rename_i c; exact pending_cons.mpr (.inl ⟨c, h⟩)
    · exact pending_cons.mpr (.inr (ih h))

theorem pending_eraseT {k' : Nat} (h : Pending (eraseT k l) k' e) : Pending l k' e := by
  obtain ⟨kv, h1, h2⟩ := h
  exact ⟨kv, (List.mem_filter.mp h1).1, h2⟩

theorem pending_map_filter {p : TEntry → Bool} :
    Pending (l.map (fun kv => (kv.1, kv.2.filter p))) k e ↔ Pending l k e ∧ p e = true := by
  simp only [Pending, List.mem_map]
  constructor
  · rintro ⟨_, ⟨kv, h, rfl⟩, h1, h2⟩
    exact ⟨⟨kv, h, h1, (List.mem_filter.mp h2).1⟩, (List.mem_filter.mp h2).2⟩
  · rintro ⟨⟨kv, h, h1, h2⟩, hp⟩
    exact ⟨_, ⟨kv, h, rfl⟩, h1, List.mem_filter.mpr ⟨h2, hp⟩⟩

end Keyed

/-- timing invariant: the wake-up is scheduled at the minimum pending deadline and is not overdue; every pending
entry belongs to the current state and its deadline is `last change + its hold time` -/
structure Inv (s : Sw) : Prop where
  wake_min : s.wake = minKey s.timed
  wake_ge : ∀ w, s.wake = some w → s.now ≤ w
  entries : ∀ kv ∈ s.timed, ∀ e ∈ kv.2, ∃ lc, s.lastChange = some lc ∧ kv.1 = lc + e.ms ∧ e.st = s.state ∧ e.ms ≠ 0
  lc_le : ∀ lc, s.lastChange = some lc → lc ≤ s.now

/-- the part of the invariant that also holds in the middle of `_process_active_timed_switches` (where the wake-up record
is deleted): every pending entry is for the current state and sits at `last change + its hold time` -/
structure InvE (s : Sw) : Prop where
  entries : ∀ kv ∈ s.timed, ∀ e ∈ kv.2, ∃ lc, s.lastChange = some lc ∧ kv.1 = lc + e.ms ∧ e.st = s.state ∧ e.ms ≠ 0
  lc_le : ∀ lc, s.lastChange = some lc → lc ≤ s.now

/-- what `Inv.entries` says of an entry `e` under deadline `k` -/
def Due (s : Sw) (k : Nat) (e : TEntry) : Prop := ∃ lc, s.lastChange = some lc ∧ k = lc + e.ms ∧ e.st = s.state ∧ e.ms ≠ 0

/-- what of `Inv` also holds in the middle of a wake-up, where the wake-up record is deleted: an expired deadline is due at
this very instant, so even then none is overdue (`ahead` stands for `wake_ge`).  `Inv s ↔ InvW s ∧ s.wake = minKey s.timed`
(`Inv.toW`, `InvW.inv`): the lemmas below carry `InvW` and the position of the wake-up separately. -/
structure InvW (s : Sw) : Prop where
  due : ∀ k e, Pending s.timed k e → Due s k e
  lc_le : ∀ lc, s.lastChange = some lc → lc ≤ s.now
  ahead : ∀ k ∈ keys s.timed, s.now ≤ k

/-- the fields that registering, removing and scheduling handlers never touch -/
structure Frame (s s' : Sw) : Prop where
  state : s'.state = s.state
  invert : s'.invert = s.invert
  hw : s'.hw = s.hw
  now : s'.now = s.now
  lastChange : s'.lastChange = s.lastChange

theorem Inv.toE {s : Sw} (i : Inv s) : InvE s := ⟨i.entries, i.lc_le⟩

theorem init_inv (invert state hw : Bool) : Inv { invert := invert, state := state, hw := hw } :=
  ⟨rfl, nofun, nofun, nofun⟩

theorem addTimed_fields (s : Sw) (key : Nat) (e : TEntry) :
    (addTimed s key e).state = s.state ∧ (addTimed s key e).invert = s.invert ∧ (addTimed s key e).hw = s.hw ∧
    (addTimed s key e).now = s.now ∧ (addTimed s key e).lastChange = s.lastChange ∧
    (addTimed s key e).reg0 = s.reg0 ∧ (addTimed s key e).reg1 = s.reg1 ∧
    (addTimed s key e).mutes = s.mutes ∧ (addTimed s key e).mon = s.mon :=
  ⟨rfl, rfl, rfl, rfl, rfl, rfl, rfl, rfl, rfl⟩

section Helpers
variable {s s' : Sw} {st : Bool} {k key ms cb : Nat} {e : TEntry}

theorem Inv.toW (i : Inv s) : InvW s := by
  refine ⟨fun k e ⟨kv, h1, h2, h3⟩ => h2 ▸ i.entries kv h1 e h3, i.lc_le, fun k hk => ?_⟩
  cases hm : minKey s.timed with
  | none => rw [minKey_none.mp hm] at hk; cases hk
  | some m => exact Nat.le_trans (i.wake_ge m (i.wake_min.trans hm)) ((minKey_iff.mp hm).2 k hk)

theorem InvW.inv (h : InvW s) (hw : s.wake = minKey s.timed) : Inv s :=
  ⟨hw, fun w e => h.ahead w (minKey_iff.mp (hw.symm.trans e)).1, fun kv hkv e he => h.due kv.1 e ⟨kv, hkv, rfl, he⟩, h.lc_le⟩

theorem Frame.refl (s : Sw) : Frame s s := ⟨rfl, rfl, rfl, rfl, rfl⟩

theorem Frame.trans {a b c : Sw} (h1 : Frame a b) (h2 : Frame b c) : Frame a c :=
  ⟨h2.state.trans h1.state, h2.invert.trans h1.invert, h2.hw.trans h1.hw, h2.now.trans h1.now,
   h2.lastChange.trans h1.lastChange⟩

theorem Frame.setTimed (s : Sw) (t : List (Nat × List TEntry)) : Frame s { s with timed := t } := ⟨rfl, rfl, rfl, rfl, rfl⟩

theorem Frame.setWake (s : Sw) (w : Option Nat) : Frame s { s with wake := w } := ⟨rfl, rfl, rfl, rfl, rfl⟩

/-- `Inv` reads `wake`, `timed`, `now`, `lastChange` and `state` only -/
theorem Inv.congr (i : Inv s) (hw : s'.wake = s.wake) (ht : s'.timed = s.timed) (hn : s'.now = s.now)
    (hl : s'.lastChange = s.lastChange) (hs : s'.state = s.state) : Inv s' := by
  refine ⟨?_, ?_, ?_, ?_⟩
  · rw [hw, ht]; exact i.wake_min
  · rw [hw, hn]; exact i.wake_ge
  · rw [ht, hl, hs]; exact i.entries
  · rw [hl, hn]; exact i.lc_le

theorem InvW.setWake (h : InvW s) (w : Option Nat) : InvW { s with wake := w } := ⟨h.due, h.lc_le, h.ahead⟩

theorem Frame.due (f : Frame s s') : Due s' k e ↔ Due s k e := by
  simp only [Due, f.lastChange, f.state]

theorem Frame.mirror (f : Frame s s') (h : s.hw = (s.state != s.invert)) : s'.hw = (s'.state != s'.invert) := by
  rw [f.hw, f.state, f.invert]; exact h

theorem InvW.anti (h : InvW s) (f : Frame s s') (hp : ∀ k e, Pending s'.timed k e → Pending s.timed k e)
    (hk : ∀ k ∈ keys s'.timed, k ∈ keys s.timed) : InvW s' :=
  ⟨fun k e p => f.due.mpr (h.due k e (hp k e p)), by rw [f.lastChange, f.now]; exact h.lc_le,
   fun k hk' => f.now ▸ h.ahead k (hk k hk')⟩

theorem setReg_frame (s : Sw) (st : Bool) (l : List Reg) : Frame s (s.setReg st l) := by
  cases st <;> exact ⟨rfl, rfl, rfl, rfl, rfl⟩

@[simp] theorem setReg_timed (s : Sw) (st : Bool) (l : List Reg) : (s.setReg st l).timed = s.timed := by
  cases st <;> rfl

@[simp] theorem setReg_wake (s : Sw) (st : Bool) (l : List Reg) : (s.setReg st l).wake = s.wake := by
  cases st <;> rfl

theorem setReg_reg (s : Sw) (st : Bool) (l : List Reg) (b : Bool) : (s.setReg st l).reg b = if b = st then l else s.reg b := by
  cases st <;> cases b <;> rfl

theorem addTimed_frame (s : Sw) (key : Nat) (e : TEntry) : Frame s (addTimed s key e) := ⟨rfl, rfl, rfl, rfl, rfl⟩

theorem addTimed_invW (h : InvW s) (he : Due s key e) (hk : s.now < key) : InvW (addTimed s key e) := by
  refine ⟨fun k x p => ?_, h.lc_le, fun k hk' => ?_⟩
  · rcases pending_insert.mp p with ⟨rfl, rfl⟩ | p
    · exact he
    · exact h.due k x p
  · rcases mem_keys_insert.mp hk' with rfl | hk'
    · exact Nat.le_of_lt hk
    · exact h.ahead k hk'

theorem addTimed_wake (key : Nat) (e : TEntry) (h : s.wake = minKey s.timed) :
    (addTimed s key e).wake = minKey (addTimed s key e).timed := by
  simp only [addTimed, minKey_insert, Option.getD_some, ← h]
  cases s.wake with
  | none => rfl
  | some w =>
    by_cases c : min key w < w
    · exact if_pos c
    · exact (if_neg c).trans (congrArg some (show w = min key w by omega))

theorem addH_cases (s : Sw) (st : Bool) (ms cb : Nat) :
    addH s st ms cb = s.setReg st (s.reg st ++ [⟨cb, ms⟩]) ∨
    ∃ lc, s.lastChange = some lc ∧ ms ≠ 0 ∧ s.now < lc + ms ∧ st = s.state ∧
      addH s st ms cb = addTimed (s.setReg st (s.reg st ++ [⟨cb, ms⟩])) (lc + ms) ⟨cb, st, ms⟩ := by
  unfold addH
  cases s.lastChange with
  | none => exact .inl rfl
  | some lc =>
    by_cases c : ms ≠ 0 ∧ s.now < lc + ms ∧ st = s.state
    · exact .inr ⟨lc, rfl, c.1, c.2.1, c.2.2, if_pos c⟩
    · exact .inl (if_neg c)

theorem addH_reg (s : Sw) (st : Bool) (ms cb : Nat) (b : Bool) :
    (addH s st ms cb).reg b = if b = st then s.reg st ++ [⟨cb, ms⟩] else s.reg b := by
  rcases addH_cases s st ms cb with h | ⟨lc, -, -, -, -, h⟩ <;> rw [h] <;> exact setReg_reg ..

@[simp] theorem removeH_timed (s : Sw) (st : Bool) (ms cb : Nat) :
    (removeH s st ms cb).timed = s.timed.map (fun kv => (kv.1, kv.2.filter (fun e => !isMatch st ms cb e))) := by
  cases st <;> rfl

theorem removeH_reg (s : Sw) (st : Bool) (ms cb : Nat) (b : Bool) :
    (removeH s st ms cb).reg b = if b = st then (s.reg st).filter (fun r => !(r.ms == ms && r.cb == cb)) else s.reg b := by
  cases st <;> cases b <;> rfl

/-- a callback's actions (and a top-level `add`/`remove`) consist of three primitive changes: of the registrations, arming a due
deadline that is still ahead, removing pending entries -/
theorem applyActs_ind {I : Sw → Prop} (hreg : ∀ s st l, I s → I (s.setReg st l))
    (harm : ∀ s key e, Due s key e → s.now < key → I s → I (addTimed s key e))
    (hfil : ∀ s p, I s → I { s with timed := s.timed.map (fun kv => (kv.1, kv.2.filter p)) }) (as : List Act) :
    ∀ s, I s → I (applyActs s as) := by
  induction as with
  | nil => exact fun s i => i
  | cons a r ih =>
    intro s i
    refine ih _ ?_
    cases a with
    | add st ms cb =>
      show I (addH s st ms cb)
      rcases addH_cases s st ms cb with h | ⟨lc, hl, h1, h2, h3, h⟩ <;> rw [h]
      · exact hreg _ _ _ i
      · have f := setReg_frame s st (s.reg st ++ [⟨cb, ms⟩])
        exact harm _ _ _ (f.due.mpr ⟨lc, hl, rfl, h3, h1⟩) (f.now ▸ h2) (hreg _ _ _ i)
    | remove st ms cb => exact hfil _ _ (hreg _ _ _ i)

variable (as : List Act)

theorem applyActs_frame (s : Sw) : Frame s (applyActs s as) :=
  applyActs_ind (I := Frame s) (fun _ _ _ f => f.trans (setReg_frame ..)) (fun _ _ _ _ _ f => f.trans (addTimed_frame ..))
    (fun _ _ f => f.trans (Frame.setTimed ..)) as s (Frame.refl s)

theorem applyActs_invW (h : InvW s) : InvW (applyActs s as) := by
  refine applyActs_ind (fun s st l h => ?_) (fun _ _ _ he hk h => addTimed_invW h he hk) (fun s p h => ?_) as s h
  · cases st <;> exact ⟨h.due, h.lc_le, h.ahead⟩
  · exact h.anti (Frame.setTimed ..) (fun _ _ q => (pending_map_filter.mp q).1) (fun k hk => keys_mapSnd _ ▸ hk)

theorem applyActs_wake (h : s.wake = minKey s.timed) : (applyActs s as).wake = minKey (applyActs s as).timed := by
  refine applyActs_ind (I := fun s => s.wake = minKey s.timed) (fun s st l h => ?_) (fun _ _ _ _ _ h => addTimed_wake _ _ h)
    (fun s p h => h.trans (minKey_mapSnd _).symm) as s h
  rw [setReg_wake, setReg_timed]; exact h

/-- `canc` (what `_call_handlers` skips) covers every registration that left the live list -/
theorem applyActs_reg_live {st : Bool} {r : Reg} : ∀ (as : List Act) (s : Sw), r ∈ s.reg st → r ∉ cancOf st as →
    r ∈ (applyActs s as).reg st := by
  intro as
  induction as with
  | nil => exact fun s h _ => h
  | cons a as ih =>
    intro s h hc
    cases a with
    | add st' ms cb =>
      refine ih (addH s st' ms cb) ?_ hc
      rw [addH_reg]; split
      · rename_i e; exact List.mem_append_left _ (e ▸ h)
      · exact h
    | remove st' ms cb =>
      rw [cancOf] at hc
      by_cases e : st' = st
      · subst e
        rw [if_pos rfl] at hc
        refine ih (removeH s st' ms cb) ?_ (fun c => hc (List.mem_cons_of_mem _ c))
        rw [removeH_reg, if_pos rfl]
        have hne : (r.ms == ms && r.cb == cb) = false := Bool.eq_false_iff.mpr (fun hb => by
          simp only [Bool.and_eq_true, beq_iff_eq] at hb
          exact hc (by cases r; cases hb.1; cases hb.2; exact List.mem_cons_self))
        exact List.mem_filter.mpr ⟨h, by rw [hne]; rfl⟩
      · rw [if_neg e] at hc
        refine ih (removeH s st' ms cb) ?_ hc
        rw [removeH_reg, if_neg (Ne.symm e)]; exact h

end Helpers

/-! Each dispatch loop folds over a copied list and runs callbacks' actions in its body.  A property of it is stated as a predicate
`J` of the current state and the trace emitted so far: it holds after the loop if the loop's primitive steps preserve it. -/

section Loops
variable {J : Sw → List Obs → Prop} {P : Prog} {st : Bool} {lc k now : Nat}

/-- `_call_handlers`: what is called or armed is still in the live list (`r ∈ s.reg st`: not cancelled) -/
theorem callHandlers_ind
    (hcall : ∀ r s tr, J s tr → r ∈ s.reg st → r.ms = 0 → J (applyActs s (P r.cb)) (tr ++ [.call r.cb st 0 lc]))
    (harm : ∀ r s tr, J s tr → r ∈ s.reg st → r.ms ≠ 0 → J (addTimed s (lc + r.ms) ⟨r.cb, st, r.ms⟩) tr) :
    ∀ regs canc s tr, (∀ r ∈ regs, r ∉ canc → r ∈ s.reg st) → J s tr →
      J (callHandlers P st lc canc regs s).1 (tr ++ (callHandlers P st lc canc regs s).2) := by
  intro regs
  induction regs with
  | nil => intro canc s tr _ h; show J s (tr ++ []); rwa [List.append_nil]
  | cons r rest ih =>
    intro canc s tr hl h
    have hl' := fun x hx => hl x (List.mem_cons_of_mem _ hx)
    rw [callHandlers]
    by_cases hc : r ∈ canc
    · rw [if_pos hc]; exact ih canc s tr hl' h
    · have hr := hl r List.mem_cons_self hc
      rw [if_neg hc]
      by_cases hz : r.ms = 0
      · rw [if_pos hz, List.append_cons]
        refine ih _ _ _ (fun x hx hxc => ?_) (hcall r s tr h hr hz)
        exact applyActs_reg_live _ _ (hl' x hx (fun c => hxc (List.mem_append_left _ c)))
          (fun c => hxc (List.mem_append_right _ c))
      · rw [if_neg hz]; exact ih canc _ tr hl' (harm r s tr h hr hz)

theorem procEntries_ind
    (hcall : ∀ e s tr, J s tr → e ∈ lookupT k s.timed → J (applyActs s (P e.cb)) (tr ++ [.call e.cb e.st e.ms now])) :
    ∀ es s tr, J s tr → J (procEntries P k now es s).1 (tr ++ (procEntries P k now es s).2) := by
  intro es
  induction es with
  | nil => intro s tr h; show J s (tr ++ []); rwa [List.append_nil]
  | cons e rest ih =>
    intro s tr h
    rw [procEntries]
    by_cases hm : e ∈ lookupT k s.timed
    · rw [if_pos hm, List.append_cons]; exact ih _ _ (hcall e s tr h hm)
    · rw [if_neg hm]; exact ih s tr h

/-- the wake-up: the bucket of an expired deadline of the copied key list is processed, then deleted -/
theorem procKeys_ind {ks : List Nat}
    (hcall : ∀ k ∈ ks, k ≤ now → ∀ e s tr, J s tr → e ∈ lookupT k s.timed →
      J (applyActs s (P e.cb)) (tr ++ [.call e.cb e.st e.ms now]))
    (hdel : ∀ k s tr, J s tr → J { s with timed := eraseT k s.timed } tr) :
    ∀ s tr, J s tr → J (procKeys P now ks s).1 (tr ++ (procKeys P now ks s).2) := by
  induction ks with
  | nil => intro s tr h; show J s (tr ++ []); rwa [List.append_nil]
  | cons k ks ih =>
    intro s tr h
    have ih := ih (fun k' hk' => hcall k' (List.mem_cons_of_mem _ hk'))
    rw [procKeys]
    by_cases hle : k ≤ now
    · rw [if_pos hle, ← List.append_assoc]
      exact ih _ _ (hdel k _ _ (procEntries_ind (hcall k List.mem_cons_self hle) _ s tr h))
    · rw [if_neg hle]; exact ih s tr h

end Loops

theorem callHandlers_frame (P : Prog) (st : Bool) (lc : Nat) (s : Sw) : Frame s (callHandlers P st lc [] (s.reg st) s).1 :=
  callHandlers_ind (J := fun s' _ => Frame s s') (fun _ _ _ f _ _ => f.trans (applyActs_frame ..))
    (fun _ _ _ f _ _ => f.trans (addTimed_frame ..)) _ [] s [] (fun _ h _ => h) (Frame.refl s)

theorem procKeys_frame (P : Prog) (now : Nat) (ks : List Nat) (s : Sw) : Frame s (procKeys P now ks s).1 :=
  procKeys_ind (J := fun s' _ => Frame s s') (fun _ _ _ _ _ _ f _ => f.trans (applyActs_frame ..))
    (fun _ _ _ f => f.trans (Frame.setTimed ..)) s [] (Frame.refl s)

theorem callHandlers_inv (P : Prog) {st : Bool} {lc : Nat} {s : Sw} (i : Inv s) (h1 : s.lastChange = some lc)
    (h2 : s.state = st) (h3 : s.now ≤ lc) : Inv (callHandlers P st lc [] (s.reg st) s).1 := by
  refine (callHandlers_ind (J := fun s' _ => Inv s' ∧ Frame s s') (fun r s' _ h _ _ => ?_) (fun r s' _ h _ hz => ?_)
    _ [] s [] (fun _ h _ => h) ⟨i, Frame.refl s⟩).1
  · exact ⟨(applyActs_invW _ h.1.toW).inv (applyActs_wake _ h.1.wake_min), h.2.trans (applyActs_frame ..)⟩
  · have hd : Due s' (lc + r.ms) ⟨r.cb, st, r.ms⟩ := h.2.due.mpr ⟨lc, h1, rfl, h2.symm, hz⟩
    exact ⟨(addTimed_invW h.1.toW hd (by rw [h.2.now]; omega)).inv (addTimed_wake _ _ h.1.wake_min),
      h.2.trans (addTimed_frame ..)⟩

/-- what holds in the middle of a wake-up of `s` over the copied keys `ks`, in state `s'` after trace `tr`: every call was of
an entry for the current state whose deadline `last change + ms` is an expired key of `ks` -/
structure WakeUp (s : Sw) (ks : List Nat) (s' : Sw) (tr : List Obs) : Prop where
  invW : InvW s'
  frame : Frame s s'
  calls : ∀ o ∈ tr, ∃ e k, o = Obs.call e.cb e.st e.ms s.now ∧ Due s k e ∧ k ∈ ks ∧ k ≤ s.now

theorem procKeys_spec (P : Prog) (ks : List Nat) {s : Sw} (h : InvW s) :
    WakeUp s ks (procKeys P s.now ks s).1 (procKeys P s.now ks s).2 := by
  refine procKeys_ind (J := WakeUp s ks) (fun k hk hle e s' tr h hm => ?_) (fun k s' tr h => ?_) s []
    ⟨h, Frame.refl s, fun _ h => nomatch h⟩
  · refine ⟨applyActs_invW _ h.invW, h.frame.trans (applyActs_frame ..), fun o ho => ?_⟩
    rcases List.mem_append.mp ho with ho | ho
    · exact h.calls o ho
    · exact ⟨e, k, List.mem_singleton.mp ho, h.frame.due.mp (h.invW.due k e (pending_of_lookupT hm)), hk, hle⟩
  · exact ⟨h.invW.anti (Frame.setTimed ..) (fun _ _ => pending_eraseT) (fun _ => mem_keys_eraseT),
      h.frame.trans (Frame.setTimed ..), h.calls⟩

/-- the calls of one walk: a sub-sequence of the untimed registrations that existed when the change happened, each at most
once, in registration order (so a handler registered by a callback during the walk is not called in this round) -/
theorem callHandlers_sublist (P : Prog) (st : Bool) (lc : Nat) : ∀ (regs canc : List Reg) (s : Sw),
    List.Sublist (callHandlers P st lc canc regs s).2 ((regs.filter (fun r => r.ms = 0)).map (fun r => Obs.call r.cb st 0 lc)) := by
  intro regs
  induction regs with
  | nil => intro canc s; exact .slnil
  | cons r rest ih =>
    intro canc s
    rw [callHandlers, List.filter_cons]
    by_cases hz : r.ms = 0
    · rw [if_pos (decide_eq_true hz), if_pos hz, List.map_cons]
      by_cases hc : r ∈ canc
      · rw [if_pos hc]; exact (ih ..).cons _
      · rw [if_neg hc]; exact (ih ..).cons_cons _
    · have hd : ¬decide (r.ms = 0) = true := by rw [decide_eq_false hz]; nofun
      rw [if_neg hd, if_neg hz]
      by_cases hc : r ∈ canc
      · rw [if_pos hc]; exact ih ..
      · rw [if_neg hc]; exact ih ..

/-- if nothing is cancelled during the walk (no callback that runs removes a handler of the state being walked), the calls
are exactly the untimed registrations, once each, in order — whatever else the callbacks register -/
theorem callHandlers_obs (P : Prog) (st : Bool) (lc : Nat) : ∀ (regs : List Reg) (s : Sw),
    (∀ r ∈ regs, r.ms = 0 → cancOf st (P r.cb) = []) →
    (callHandlers P st lc [] regs s).2 = (regs.filter (fun r => r.ms = 0)).map (fun r => Obs.call r.cb st 0 lc) := by
  intro regs
  induction regs with
  | nil => intro s _; rfl
  | cons r rest ih =>
    intro s h
    have ih := fun s => ih s (fun r' hr' => h r' (List.mem_cons_of_mem _ hr'))
    rw [callHandlers, if_neg List.not_mem_nil, List.filter_cons]
    by_cases hz : r.ms = 0
    · rw [if_pos hz, if_pos (decide_eq_true hz), h r List.mem_cons_self hz, List.map_cons]
      exact congrArg (Obs.call r.cb st 0 lc :: ·) (ih _)
    · have hd : ¬decide (r.ms = 0) = true := by rw [decide_eq_false hz]; nofun
      rw [if_neg hz, if_neg hd, ih]

section Report
variable (P : Prog) {s : Sw} {st : Bool}

theorem changed_inv (s : Sw) (st : Bool) : Inv (changed s st) :=
  ⟨rfl, nofun, nofun, fun _ h => Option.some.inj h ▸ Nat.le_refl _⟩

theorem changed_reg (s : Sw) (st b : Bool) : (changed s st).reg b = s.reg b := by
  cases b <;> rfl

theorem reportL_dup (s : Sw) (st : Bool) (h : st = s.state) : reportL P s st = (s, []) := by
  simp [reportL, h]

theorem reportL_muted (h : st ≠ s.state) (hm : s.mutes ≠ []) :
    reportL P s st = (changed s st, if s.mon then [.monitor st] else []) := by
  simp [reportL, h, changed, hm]

theorem reportL_walk (h : st ≠ s.state) (hm : s.mutes = []) :
    reportL P s st = ((callHandlers P st s.now [] ((changed s st).reg st) (changed s st)).1,
      (callHandlers P st s.now [] ((changed s st).reg st) (changed s st)).2 ++ if s.mon then [.monitor st] else []) := by
  simp [reportL, h, changed, hm]

theorem reportL_trace (h : st ≠ s.state) :
    ∃ calls, (reportL P s st).2 = calls ++ (if s.mon then [.monitor st] else []) ∧
      List.Sublist calls (((s.reg st).filter (fun r => r.ms = 0)).map (fun r => Obs.call r.cb st 0 s.now)) := by
  by_cases hm : s.mutes = []
  · rw [reportL_walk P h hm, changed_reg]; exact ⟨_, rfl, callHandlers_sublist ..⟩
  · rw [reportL_muted P h hm]; exact ⟨[], rfl, List.nil_sublist _⟩

theorem reportL_inv (s : Sw) (st : Bool) (i : Inv s) : Inv (reportL P s st).1 := by
  by_cases h : st = s.state
  · rw [reportL_dup P s st h]; exact i
  · by_cases hm : s.mutes = []
    · rw [reportL_walk P h hm]; exact callHandlers_inv P (changed_inv s st) rfl rfl (Nat.le_refl _)
    · rw [reportL_muted P h hm]; exact changed_inv s st

theorem reportL_frame (s : Sw) (st : Bool) : Frame (if st = s.state then s else changed s st) (reportL P s st).1 := by
  by_cases h : st = s.state
  · rw [reportL_dup P s st h, if_pos h]; exact Frame.refl s
  · rw [if_neg h]
    by_cases hm : s.mutes = []
    · rw [reportL_walk P h hm]; exact callHandlers_frame ..
    · rw [reportL_muted P h hm]; exact Frame.refl _

theorem reportL_mirror (s : Sw) (st : Bool) :
    (reportL P s st).1.invert = s.invert ∧ (reportL P s st).1.state = st ∧
    ((st = s.state → s.hw = (s.state != s.invert)) →
      (reportL P s st).1.hw = ((reportL P s st).1.state != (reportL P s st).1.invert)) := by
  have f := reportL_frame P s st
  by_cases e : st = s.state
  · rw [if_pos e] at f; exact ⟨f.invert, f.state.trans e.symm, fun h => f.mirror (h e)⟩
  · rw [if_neg e] at f; exact ⟨f.invert, f.state, fun _ => f.mirror rfl⟩

end Report

section Step
variable {P : Prog} {s : Sw} {r : Sw × List Obs}

theorem step_to {t : Nat} (h : step P s (.to t) = some r) :
    (s.now ≤ t ∧ t ≤ s.wake.getD t) ∧ r = ({ s with now := t }, []) := by
  rw [step, Option.ite_none_right_eq_some] at h
  exact ⟨h.1, (Option.some.inj h.2).symm⟩

theorem step_wake (h : step P s .wake = some r) :
    ∃ w, s.wake = some w ∧ w ≤ s.now ∧
      r = ({ (procKeys P s.now (keys s.timed) { s with wake := none }).1 with
              wake := minKey (procKeys P s.now (keys s.timed) { s with wake := none }).1.timed },
           (procKeys P s.now (keys s.timed) { s with wake := none }).2) := by
  rw [step] at h
  cases hw : s.wake with
  | none => rw [hw] at h; cases h
  | some w =>
    rw [hw, Option.ite_none_right_eq_some] at h
    exact ⟨w, rfl, h.1, (Option.some.inj h.2).symm⟩

end Step

/-- every step except a poll (which overwrites the state silently) preserves the timing invariant -/
theorem step_inv (P : Prog) (s : Sw) (op : Op) (r : Sw × List Obs) (i : Inv s) (hp : ∀ hw, op ≠ .poll hw)
    (h : step P s op = some r) : Inv r.1 := by
  cases op
  case report l v => obtain rfl := Option.some.inj h; exact reportL_inv P s _ i
  case resync hw => obtain rfl := Option.some.inj h; exact reportL_inv P _ _ (i.congr rfl rfl rfl rfl rfl)
  case add st ms cb =>
    obtain rfl := Option.some.inj h
    exact (applyActs_invW [.add st ms cb] i.toW).inv (applyActs_wake [.add st ms cb] i.wake_min)
  case remove st ms cb =>
    obtain rfl := Option.some.inj h
    exact (applyActs_invW [.remove st ms cb] i.toW).inv (applyActs_wake [.remove st ms cb] i.wake_min)
  case to t =>
    obtain ⟨c, rfl⟩ := step_to h
    refine ⟨i.wake_min, fun w hw => ?_, i.entries, fun lc hl => Nat.le_trans (i.lc_le lc hl) c.1⟩
    have := c.2; rwa [show s.wake = some w from hw] at this
  case wake =>
    obtain ⟨w, -, -, rfl⟩ := step_wake h
    exact ((procKeys_spec P (keys s.timed) (i.toW.setWake none)).invW.setWake _).inv rfl
  case poll hw => exact absurd rfl (hp hw)
  case query | mute | unmute | monitor => obtain rfl := Option.some.inj h; exact i.congr rfl rfl rfl rfl rfl

/-- the logical state an operation stands for, if it is a report of any kind (raw/logical report, resync, poll) -/
def reported (invert : Bool) : Op → Option Bool
  | .report l v => some (logicalOf invert l v)
  | .resync hw => some (hw != invert)
  | .poll hw => some (hw != invert)
  | _ => none

/-- what a step does to invert / state / hw -/
theorem step_core (P : Prog) (s : Sw) (op : Op) (r : Sw × List Obs) (h : step P s op = some r) :
    r.1.invert = s.invert ∧ r.1.state = (reported s.invert op).getD s.state ∧
    ((∀ hw, op ≠ .poll hw) → s.hw = (s.state != s.invert) → r.1.hw = (r.1.state != r.1.invert)) := by
  have frame : ∀ {s' : Sw}, Frame s s' → s'.invert = s.invert ∧ s'.state = s.state ∧
      ((∀ hw, op ≠ .poll hw) → s.hw = (s.state != s.invert) → s'.hw = (s'.state != s'.invert)) :=
    fun f => ⟨f.invert, f.state, fun _ => f.mirror⟩
  cases op
  case report l v =>
    obtain rfl := Option.some.inj h
    have m := reportL_mirror P s (logicalOf s.invert l v)
    exact ⟨m.1, m.2.1, fun _ hh => m.2.2 (fun _ => hh)⟩
  case resync hw =>
    obtain rfl := Option.some.inj h
    have m := reportL_mirror P { s with hw := hw } (hw != s.invert)
    exact ⟨m.1, m.2.1, fun _ _ => m.2.2 (fun e => show hw = (s.state != s.invert) by rw [← e]; simp)⟩
  case poll hw => obtain rfl := Option.some.inj h; exact ⟨rfl, rfl, fun c => absurd rfl (c hw)⟩
  case add st ms cb => obtain rfl := Option.some.inj h; exact frame (applyActs_frame [.add st ms cb] s)
  case remove st ms cb => obtain rfl := Option.some.inj h; exact frame (applyActs_frame [.remove st ms cb] s)
  case wake =>
    obtain ⟨w, -, -, rfl⟩ := step_wake h
    have f := procKeys_frame P s.now (keys s.timed) { s with wake := none }
    exact frame ((Frame.setWake s none).trans (f.trans (Frame.setWake ..)))
  case to t => obtain ⟨-, rfl⟩ := step_to h; exact ⟨rfl, rfl, fun _ hh => hh⟩
  case query | mute | unmute | monitor => obtain rfl := Option.some.inj h; exact ⟨rfl, rfl, fun _ hh => hh⟩

theorem run_cons {P : Prog} {s : Sw} {op : Op} {ops : List Op} {r : Sw × List Obs} (h : run P s (op :: ops) = some r) :
    ∃ r1 r2, step P s op = some r1 ∧ run P r1.1 ops = some r2 ∧ r = (r2.1, r1.2 ++ r2.2) := by
  rw [run] at h
  split at h
  · cases h
  · split at h
    · cases h
    · exact ⟨_, _, ‹_›, ‹_›, (Option.some.inj h).symm⟩

/-- no operation of the sequence is a poll (the silent overwrite of the state by `update_switches_from_hw`) -/
def NoPoll (ops : List Op) : Prop := ∀ op ∈ ops, ∀ hw, op ≠ .poll hw

theorem run_inv (P : Prog) (ops : List Op) : ∀ (s : Sw) (r : Sw × List Obs), Inv s → NoPoll ops → run P s ops = some r →
    Inv r.1 := by
  induction ops with
  | nil => intro s r i _ h; obtain rfl := Option.some.inj h; exact i
  | cons op ops ih =>
    intro s r i hp h
    obtain ⟨r1, r2, h1, h2, rfl⟩ := run_cons h
    exact ih r1.1 r2 (step_inv P s op r1 i (hp op List.mem_cons_self) h1) (fun o ho => hp o (List.mem_cons_of_mem _ ho)) h2

/-- handler `(cb, ms)` for state `st` is neither registered nor pending -/
def Absent (s : Sw) (st : Bool) (ms cb : Nat) : Prop :=
  (⟨cb, ms⟩ : Reg) ∉ s.reg st ∧ ∀ kv ∈ s.timed, (⟨cb, st, ms⟩ : TEntry) ∉ kv.2

/-- no callback registers handler `(st, ms, cb)` -/
def NoAdd (P : Prog) (st : Bool) (ms cb : Nat) : Prop := ∀ c, Act.add st ms cb ∉ P c

section Absent
variable {s s' : Sw} {st : Bool} {ms cb : Nat}

theorem Absent.pending (a : Absent s st ms cb) {k : Nat} : ¬ Pending s.timed k ⟨cb, st, ms⟩ :=
  fun ⟨kv, h1, _, h3⟩ => a.2 kv h1 h3

theorem Absent.of (h1 : (⟨cb, ms⟩ : Reg) ∉ s.reg st) (h2 : ∀ k, ¬ Pending s.timed k ⟨cb, st, ms⟩) : Absent s st ms cb :=
  ⟨h1, fun kv hkv he => h2 kv.1 ⟨kv, hkv, rfl, he⟩⟩

theorem Absent.congr (a : Absent s st ms cb) (h0 : s'.reg0 = s.reg0) (h1 : s'.reg1 = s.reg1) (ht : s'.timed = s.timed) :
    Absent s' st ms cb := by
  have : s'.reg st = s.reg st := by cases st <;> simp [Sw.reg, h0, h1]
  exact ⟨this ▸ a.1, ht ▸ a.2⟩

theorem addTimed_absent {key : Nat} {e : TEntry} (a : Absent s st ms cb) (he : e ≠ ⟨cb, st, ms⟩) :
    Absent (addTimed s key e) st ms cb :=
  .of a.1 (fun _ p => (pending_insert.mp p).elim (fun c => he c.2.symm) a.pending)

theorem addH_absent (st' : Bool) (ms' cb' : Nat) (a : Absent s st ms cb) (hne : Act.add st' ms' cb' ≠ Act.add st ms cb) :
    Absent (addH s st' ms' cb') st ms cb := by
  have a1 : Absent (s.setReg st' (s.reg st' ++ [⟨cb', ms'⟩])) st ms cb := by
    refine ⟨?_, by rw [setReg_timed]; exact a.2⟩
    rw [setReg_reg]; split
    · rename_i e; subst e
      exact fun hm => (List.mem_append.mp hm).elim a.1 (fun d => hne (by cases List.mem_singleton.mp d; rfl))
    · exact a.1
  rcases addH_cases s st' ms' cb' with h | ⟨lc, -, -, -, -, h⟩ <;> rw [h]
  · exact a1
  · exact addTimed_absent a1 (fun c => hne (by cases c; rfl))

theorem removeH_absent (st' : Bool) (ms' cb' : Nat) (a : Absent s st ms cb) : Absent (removeH s st' ms' cb') st ms cb := by
  refine .of ?_ (fun k p => a.pending (pending_map_filter.mp (removeH_timed .. ▸ p)).1)
  rw [removeH_reg]; split
  · rename_i e; subst e; exact fun hm => a.1 (List.mem_filter.mp hm).1
  · exact a.1

theorem removeH_makes_absent (s : Sw) (st : Bool) (ms cb : Nat) : Absent (removeH s st ms cb) st ms cb := by
  refine .of ?_ (fun k p => ?_)
  · rw [removeH_reg, if_pos rfl]
    exact fun hm => by simpa using (List.mem_filter.mp hm).2
  · have := (pending_map_filter.mp (removeH_timed .. ▸ p)).2
    simp [isMatch] at this

theorem applyActs_absent (as : List Act) : ∀ (s : Sw), Absent s st ms cb → Act.add st ms cb ∉ as →
    Absent (applyActs s as) st ms cb := by
  induction as with
  | nil => exact fun s a _ => a
  | cons x r ih =>
    intro s a hn
    refine ih _ ?_ (fun h => hn (List.mem_cons_of_mem _ h))
    cases x with
    | add st' ms' cb' => exact addH_absent st' ms' cb' a (fun h => hn (h ▸ List.mem_cons_self))
    | remove st' ms' cb' => exact removeH_absent st' ms' cb' a

theorem applyActs_removes (as : List Act) : ∀ (s : Sw), Act.remove st ms cb ∈ as → Act.add st ms cb ∉ as →
    Absent (applyActs s as) st ms cb := by
  induction as with
  | nil => exact fun s h => nomatch h
  | cons x r ih =>
    intro s h hn
    have hn' : Act.add st ms cb ∉ r := fun h => hn (List.mem_cons_of_mem _ h)
    rcases List.mem_cons.mp h with rfl | d
    · exact applyActs_absent r _ (removeH_makes_absent s st ms cb) hn'
    · exact ih _ d hn'

end Absent

/-- `tail` is a part of the trace `tr` throughout which handler `(st, ms, cb)` is gone: all of `tr` if it was absent at the start
(`a`), or what follows the call of a callback that removes it -/
def Since (P : Prog) (st : Bool) (ms cb : Nat) (a : Prop) (tr tail : List Obs) : Prop :=
  (a ∧ tail = tr) ∨ ∃ pre c st' ms' t, tr = pre ++ Obs.call c st' ms' t :: tail ∧ Act.remove st ms cb ∈ P c

/-- in state `s`, reached with trace `tr`: wherever the handler is gone it is absent now and has not been called since.
`a := True`: it was absent at the start (after a `remove` op), so this speaks of all of `tr`; `a := False`: nothing is known at the
start, so it speaks only of what follows the call of a removing callback. -/
def Gone (P : Prog) (st : Bool) (ms cb : Nat) (a : Prop) (s : Sw) (tr : List Obs) : Prop :=
  ∀ tail, Since P st ms cb a tr tail → Absent s st ms cb ∧ ∀ t, Obs.call cb st ms t ∉ tail

section Gone
variable {P : Prog} {st : Bool} {ms cb : Nat} {a : Prop} {s s' : Sw} {tr : List Obs}

theorem Gone.nil (h : a → Absent s st ms cb) : Gone P st ms cb a s [] := by
  rintro tail (⟨ha, rfl⟩ | ⟨pre, c, st', ms', t, e, -⟩)
  · exact ⟨h ha, fun _ => List.not_mem_nil⟩
  · cases pre <;> cases e

theorem Gone.mono (g : Gone P st ms cb a s tr) (hs : Absent s st ms cb → Absent s' st ms cb) : Gone P st ms cb a s' tr :=
  fun tail h => ⟨hs (g tail h).1, (g tail h).2⟩

theorem Gone.silent (g : Gone P st ms cb a s tr) : Gone P st ms cb a s (tr ++ []) := by
  rwa [List.append_nil]

/-- one more observation `x`, after which the state is `s'` -/
theorem Gone.snoc {x : Obs} (g : Gone P st ms cb a s tr) (hx : Absent s st ms cb → ∀ t, x ≠ .call cb st ms t)
    (hs : Absent s st ms cb → Absent s' st ms cb)
    (hr : ∀ c st' ms' t, x = .call c st' ms' t → Act.remove st ms cb ∈ P c → Absent s' st ms cb) :
    Gone P st ms cb a s' (tr ++ [x]) := by
  have step : ∀ tail, Since P st ms cb a tr tail → Absent s' st ms cb ∧ ∀ t, Obs.call cb st ms t ∉ tail ++ [x] := by
    intro tail h
    obtain ⟨b1, b2⟩ := g tail h
    exact ⟨hs b1, fun t ht => (List.mem_append.mp ht).elim (b2 t) (fun d => hx b1 t (List.mem_singleton.mp d).symm)⟩
  rintro tail (⟨ha, rfl⟩ | ⟨pre, c, st', ms', t, e, hrm⟩)
  · exact step tr (.inl ⟨ha, rfl⟩)
  · rcases List.eq_nil_or_concat tail with rfl | ⟨tail', y, rfl⟩
    · obtain ⟨-, e⟩ := List.append_inj' e rfl
      exact ⟨hr c st' ms' t (List.singleton_inj.mp e) hrm, fun _ => List.not_mem_nil⟩
    · rw [List.concat_eq_append, ← List.cons_append, ← List.append_assoc] at e
      obtain ⟨e1, e2⟩ := List.append_inj' e rfl
      cases e2
      exact List.concat_eq_append ▸ step tail' (.inr ⟨pre, c, st', ms', t, e1, hrm⟩)

theorem Gone.mon (g : Gone P st ms cb a s tr) (b st' : Bool) :
    Gone P st ms cb a s (tr ++ if b then [.monitor st'] else []) := by
  cases b
  · exact g.silent
  · exact g.snoc (fun _ _ => nofun) id (fun _ _ _ _ => nofun)

variable (hP : NoAdd P st ms cb)
include hP

theorem callHandlers_gone (stD : Bool) (lc : Nat) (g : Gone P st ms cb a s tr) :
    Gone P st ms cb a (callHandlers P stD lc [] (s.reg stD) s).1 (tr ++ (callHandlers P stD lc [] (s.reg stD) s).2) := by
  -- a live registration is not the absent handler
  have live : ∀ {r : Reg} {s' : Sw}, r ∈ s'.reg stD → Absent s' st ms cb → ¬(r.cb = cb ∧ stD = st ∧ r.ms = ms) := by
    rintro ⟨_, _⟩ s' hr ab ⟨rfl, rfl, rfl⟩; exact ab.1 hr
  refine callHandlers_ind (J := Gone P st ms cb a) (fun r s' _ g hr hz => ?_) (fun r s' _ g hr _ => ?_)
    _ [] s tr (fun _ h _ => h) g
  · refine g.snoc (fun ab t e => ?_) (fun ab => applyActs_absent _ _ ab (hP r.cb))
      (fun c _ _ _ e hrm => by cases e; exact applyActs_removes _ _ hrm (hP r.cb))
    cases e; exact live hr ab ⟨rfl, rfl, hz⟩
  · exact g.mono (fun ab => addTimed_absent ab (fun e => by cases e; exact live hr ab ⟨rfl, rfl, rfl⟩))

theorem procKeys_gone (now : Nat) (ks : List Nat) (g : Gone P st ms cb a s tr) :
    Gone P st ms cb a (procKeys P now ks s).1 (tr ++ (procKeys P now ks s).2) := by
  refine procKeys_ind (J := Gone P st ms cb a) (fun k _ _ e s' _ g hm => ?_) (fun k s' _ g => ?_) s tr g
  · refine g.snoc (fun ab t c => ?_) (fun ab => applyActs_absent _ _ ab (hP e.cb))
      (fun c _ _ _ h hrm => by cases h; exact applyActs_removes _ _ hrm (hP e.cb))
    cases c; exact ab.pending (pending_of_lookupT hm)
  · exact g.mono (fun ab => .of ab.1 (fun _ p => ab.pending (pending_eraseT p)))

theorem reportL_gone (stD : Bool) (g : Gone P st ms cb a s tr) :
    Gone P st ms cb a (reportL P s stD).1 (tr ++ (reportL P s stD).2) := by
  have g1 : Gone P st ms cb a (changed s stD) tr :=
    g.mono (fun ab => ⟨changed_reg s stD st ▸ ab.1, fun _ h => nomatch h⟩)
  by_cases h : stD = s.state
  · rw [reportL_dup P s stD h]; exact g.silent
  · by_cases hm : s.mutes = []
    · rw [reportL_walk P h hm, ← List.append_assoc]; exact (callHandlers_gone hP stD s.now g1).mon _ _
    · rw [reportL_muted P h hm]; exact g1.mon _ _

theorem step_gone {op : Op} {r : Sw × List Obs} (g : Gone P st ms cb a s tr)
    (hop : op ≠ .add st ms cb) (h : step P s op = some r) : Gone P st ms cb a r.1 (tr ++ r.2) := by
  cases op
  case report l v => obtain rfl := Option.some.inj h; exact reportL_gone hP _ g
  case resync hw => obtain rfl := Option.some.inj h; exact reportL_gone hP _ (g.mono (·.congr rfl rfl rfl))
  case add st' ms' cb' =>
    obtain rfl := Option.some.inj h
    exact (g.mono (fun ab => addH_absent st' ms' cb' ab (fun e => hop (by cases e; rfl)))).silent
  case remove st' ms' cb' => obtain rfl := Option.some.inj h; exact (g.mono (removeH_absent st' ms' cb')).silent
  case wake =>
    obtain ⟨w, -, -, rfl⟩ := step_wake h
    exact (procKeys_gone hP s.now (keys s.timed) (g.mono (s' := { s with wake := none }) (·.congr rfl rfl rfl))).mono
      (·.congr rfl rfl rfl)
  case to t => obtain ⟨-, rfl⟩ := step_to h; exact (g.mono (·.congr rfl rfl rfl)).silent
  case query st' ms' => obtain rfl := Option.some.inj h; exact g.snoc (fun _ _ => nofun) id (fun _ _ _ _ => nofun)
  case mute | unmute | monitor | poll => obtain rfl := Option.some.inj h; exact (g.mono (·.congr rfl rfl rfl)).silent

theorem run_gone (ops : List Op) (hops : ∀ op ∈ ops, op ≠ .add st ms cb) :
    ∀ (s : Sw) (tr : List Obs) (r : Sw × List Obs), Gone P st ms cb a s tr → run P s ops = some r →
      Gone P st ms cb a r.1 (tr ++ r.2) := by
  induction ops with
  | nil => intro s tr r g h; obtain rfl := Option.some.inj h; exact g.silent
  | cons op ops ih =>
    intro s tr r g h
    obtain ⟨r1, r2, h1, h2, rfl⟩ := run_cons h
    rw [← List.append_assoc]
    exact ih (fun o ho => hops o (List.mem_cons_of_mem _ ho)) _ _ r2 (step_gone hP g (hops op List.mem_cons_self) h1) h2

end Gone

section Dev
variable {d : Dev} {r : Dev × List DObs}

theorem drun_cons {op : DOp} {ops : List DOp} (h : drun d (op :: ops) = some r) :
    ∃ r1 r2, dstep d op = some r1 ∧ drun r1.1 ops = some r2 ∧ r = (r2.1, r1.2 ++ r2.2) := by
  rw [drun] at h
  split at h
  · cases h
  · split at h
    · cases h
    · exact ⟨_, _, ‹_›, ‹_›, (Option.some.inj h).symm⟩

/-! a reported change: `_post_events` (no window), `_post_events_with_recycle` with the window open or closed -/

variable {st : Bool}

theorem dstep_change_nowin (hw : d.window = 0) (h : dstep d (.change st) = some r) :
    r = ({ d with state := st, posted := st }, [.post st]) := by
  rw [dstep, Option.ite_none_left_eq_some, if_pos hw] at h
  exact (Option.some.inj h.2).symm

theorem dstep_change_open {c : Nat} (hw : d.window ≠ 0) (hc : d.clear = some c) (h : dstep d (.change st) = some r) :
    r = ({ d with state := st }, []) := by
  rw [dstep, Option.ite_none_left_eq_some, if_neg hw] at h
  rw [hc] at h ⊢
  exact (Option.some.inj h.2).symm

theorem dstep_change_closed (hw : d.window ≠ 0) (hc : d.clear = none) (h : dstep d (.change st) = some r) :
    r = ({ d with state := st, clear := some (d.now + d.window), opened := st, posted := st }, [.post st]) := by
  rw [dstep, Option.ite_none_left_eq_some, if_neg hw, hc] at h
  exact (Option.some.inj h.2).symm

theorem dstep_to {t : Nat} (h : dstep d (.to t) = some r) :
    (d.now ≤ t ∧ t ≤ d.clear.getD t) ∧ r = ({ d with now := t }, []) := by
  rw [dstep, Option.ite_none_right_eq_some] at h
  exact ⟨h.1, (Option.some.inj h.2).symm⟩

/-- `_recycle_passed`: enabled when the window's end has been reached; posts iff the switch toggled -/
theorem dstep_pass (h : dstep d .pass = some r) :
    ∃ c, d.clear = some c ∧ c ≤ d.now ∧
      r = if d.state = d.opened then ({ d with clear := none }, [])
          else ({ d with clear := none, posted := d.state }, [.post d.state]) := by
  rw [dstep] at h
  cases hc : d.clear with
  | none => rw [hc] at h; cases h
  | some c =>
    rw [hc, Option.ite_none_right_eq_some] at h
    refine ⟨c, rfl, h.1, ?_⟩
    by_cases he : d.state = d.opened
    · rw [if_pos he] at h ⊢; exact (Option.some.inj h.2).symm
    · rw [if_neg he] at h ⊢; exact (Option.some.inj h.2).symm

/-- invariant of a device with ignore window `w`: an open window is not overdue and was opened by the last post; with no
window open the last post is the current state (listeners are in sync with the switch) -/
structure DInv (w : Nat) (d : Dev) : Prop where
  win : d.window = w
  clear_ge : ∀ c, d.clear = some c → d.now ≤ c
  open_posted : d.clear ≠ none → d.posted = d.opened
  closed_sync : d.clear = none → d.posted = d.state
  nowin : w = 0 → d.clear = none

variable {w : Nat}

theorem dstep_inv {op : DOp} (i : DInv w d) (h : dstep d op = some r) : DInv w r.1 := by
  cases op with
  | change st =>
    by_cases hw : d.window = 0
    · obtain rfl := dstep_change_nowin hw h
      exact ⟨i.win, i.clear_ge, fun hn => absurd (i.nowin (i.win ▸ hw)) hn, fun _ => rfl, i.nowin⟩
    · cases hc : d.clear with
      | some c =>
        obtain rfl := dstep_change_open hw hc h
        exact ⟨i.win, i.clear_ge, i.open_posted, fun hn => absurd (hc ▸ hn) nofun, i.nowin⟩
      | none =>
        obtain rfl := dstep_change_closed hw hc h
        exact ⟨i.win, fun c hc' => by cases hc'; exact Nat.le_add_right .., fun _ => rfl, nofun,
          fun h0 => absurd (i.win.trans h0) hw⟩
  | to t =>
    obtain ⟨c, rfl⟩ := dstep_to h
    refine ⟨i.win, fun c' hc' => ?_, i.open_posted, i.closed_sync, i.nowin⟩
    have := c.2; rwa [show d.clear = some c' from hc'] at this
  | pass =>
    obtain ⟨c, hc, -, rfl⟩ := dstep_pass h
    have ho := i.open_posted (hc ▸ nofun)
    by_cases he : d.state = d.opened
    · rw [if_pos he]; exact ⟨i.win, nofun, fun hn => absurd rfl hn, fun _ => ho.trans he.symm, fun _ => rfl⟩
    · rw [if_neg he]; exact ⟨i.win, nofun, fun hn => absurd rfl hn, fun _ => rfl, fun _ => rfl⟩

theorem drun_inv (ops : List DOp) : ∀ (d : Dev) (r : Dev × List DObs), DInv w d → drun d ops = some r → DInv w r.1 := by
  induction ops with
  | nil => intro d r i h; obtain rfl := Option.some.inj h; exact i
  | cons op ops ih =>
    intro d r i h
    obtain ⟨r1, r2, h1, h2, rfl⟩ := drun_cons h
    exact ih r1.1 r2 (dstep_inv i h1) h2

theorem drun_open {c : Nat} (hw : w ≠ 0) (ops : List DOp) (hops : ∀ op ∈ ops, op ≠ .pass) :
    ∀ (d : Dev) (r : Dev × List DObs), d.window = w → d.clear = some c → drun d ops = some r →
      r.2 = [] ∧ r.1.clear = some c := by
  induction ops with
  | nil => intro d r _ hc h; obtain rfl := Option.some.inj h; exact ⟨rfl, hc⟩
  | cons op ops ih =>
    intro d r hd hc h
    obtain ⟨r1, r2, h1, h2, rfl⟩ := drun_cons h
    have k : r1.2 = [] ∧ r1.1.window = w ∧ r1.1.clear = some c := by
      cases op with
      | change st => obtain rfl := dstep_change_open (hd ▸ hw) hc h1; exact ⟨rfl, hd, hc⟩
      | to t => obtain ⟨-, rfl⟩ := dstep_to h1; exact ⟨rfl, hd, hc⟩
      | pass => exact absurd rfl (hops .pass List.mem_cons_self)
    obtain ⟨a, b⟩ := ih (fun o ho => hops o (List.mem_cons_of_mem _ ho)) r1.1 r2 k.2.1 k.2.2 h2
    exact ⟨by rw [k.1, a]; rfl, b⟩

end Dev

end MpfVerif.Switch
