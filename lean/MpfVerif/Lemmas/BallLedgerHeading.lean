import MpfVerif.Lemmas.BallLedger
/-! The `heading` invariant of single-source topologies (C04 `no_fire_into_full_single_source`). -/
namespace MpfVerif.BallLedger

/-- decidable topology predicate: no device ejects into itself and every *device* target has at most one source
(playfields may be fed by any number of devices) -/
def Cfg.singleSource (c : Cfg) : Bool :=
  c.edges.all (fun e => e.1 != e.2 && (c.isPf e.2 || c.edges.all (fun e' => e'.2 != e.2 || e'.1 == e.1)))

theorem singleSource_unique (c : Cfg) (h : c.singleSource = true) (d d' t : Nat) (h1 : c.edge d t = true)
    (h2 : c.edge d' t = true) (hpf : c.isPf t = false) : d' = d ∧ d ≠ t := by
  simp only [Cfg.singleSource, List.all_eq_true, Bool.and_eq_true, Bool.or_eq_true, bne_iff_ne, beq_iff_eq] at h
  simp only [Cfg.edge, List.contains_iff_mem] at h1 h2
  obtain ⟨hne, hall⟩ := h (d, t) h1
  simp only [hpf, Bool.false_eq_true, false_or] at hall
  have := hall (d', t) h2
  simp at this hne
  exact ⟨this, hne⟩

structure SoleEdge (c : Cfg) (d t : Nat) : Prop where
  hss : c.singleSource = true
  he : c.edge d t = true
  hpf : c.isPf t = false

theorem SoleEdge.src {c : Cfg} {d t d' t' : Nat} (k : SoleEdge c d t) (he' : c.edge d' t' = true) (e : t' = t) : d' = d :=
  (singleSource_unique c k.hss d d' t k.he (e ▸ he') k.hpf).1

theorem SoleEdge.npf {c : Cfg} {d t t' : Nat} (k : SoleEdge c d t) (hpt : c.isPf t' = true) : t' ≠ t :=
  fun e => by simp [e, k.hpf] at hpt

/-- 1 while the source is between `ejectStart` and `ballLeft`/failure of an eject towards `t` -/
def fire (p : Phase) (f : Bool) (cu : Option Nat) (t : Nat) : Int :=
  if p = .ejecting ∧ f = false ∧ cu = some t then 1 else 0

theorem fire_self (t : Nat) : fire .ejecting false (some t) t = 1 := by simp [fire]
theorem fire_of_phase {p : Phase} (h : p ≠ .ejecting) (f : Bool) (cu : Option Nat) (t : Nat) : fire p f cu t = 0 := by
  simp [fire, h]
theorem fire_of_failed (p : Phase) (cu : Option Nat) (t : Nat) : fire p true cu t = 0 := by simp [fire]
theorem fire_of_cur {t' t : Nat} (h : t' ≠ t) (p : Phase) (f : Bool) : fire p f (some t') t = 0 := by simp [fire, h]

theorem ne_ejecting {p q : Phase} (h : p = q) (hq : q ≠ .ejecting := by decide) : p ≠ .ejecting := h ▸ hq

theorem length_tail {l r : List Nat} {x : Nat} (h : l = x :: r) : (r.length : Int) = l.length + -1 := by
  simp [h]; omega
theorem length_snoc (l : List Nat) (x : Nat) : ((l ++ [x]).length : Int) = l.length + 1 := by simp
theorem length_erase {l : List Nat} {x : Nat} (h : l.contains x = true) : ((l.erase x).length : Int) = l.length + -1 := by
  have hm : x ∈ l := by simpa using h
  have := List.length_erase_of_mem hm
  have := List.length_pos_of_mem hm
  omega

structure Heading (n : Nat) (H : List Int) (I : List (List Nat)) (P : List Phase) (C : List (Option Nat)) (F : List Bool)
    (d t : Nat) : Prop where
  lh : H.length = n
  li : I.length = n
  lp : P.length = n
  lc : C.length = n
  lf : F.length = n
  eq : H.getD t 0 = ((I.getD t []).length : Int) + fire (P.getD d .idle) (F.getD d false) (C.getD d none) t

def HInv (c : Cfg) (s : St) (d t : Nat) : Prop := Heading c.n s.heading s.inc s.phase s.cur s.failed d t

namespace Heading
variable {n : Nat} {H : List Int} {I : List (List Nat)} {P : List Phase} {C : List (Option Nat)} {F : List Bool} {d t : Nat}
  (h : Heading n H I P C F d t) {d' t' : Nat} {p : Phase} {x : List Nat}
include h

theorem heading (hne : t' ≠ t) (k : Int) : Heading n (bump H t' k) I P C F d t :=
  { h with lh := by simp [h.lh]
           eq := by rw [getD_bump, if_neg (fun e => hne e.1.symm)]; exact h.eq }

theorem inc (hne : t' ≠ t) (x : List Nat) : Heading n H (setAt I t' x) P C F d t :=
  { h with li := by simp [h.li]
           eq := by rw [getD_setAt, if_neg (fun e => hne e.1.symm)]; exact h.eq }

theorem both {k : Int} (hx : (x.length : Int) = (I.getD t' []).length + k) :
    Heading n (bump H t' k) (setAt I t' x) P C F d t :=
  { h with lh := by simp [h.lh]
           li := by simp [h.li]
           eq := by
             rw [getD_bump, getD_setAt, h.lh, h.li]
             split
             · rename_i e; rw [e.1, hx, ← e.1, h.eq]; omega
             · exact h.eq }

theorem congr {P' : List Phase} {C' : List (Option Nat)} {F' : List Bool} (lp : P'.length = n) (lc : C'.length = n)
    (lf : F'.length = n)
    (e : fire (P'.getD d .idle) (F'.getD d false) (C'.getD d none) t = fire (P.getD d .idle) (F.getD d false) (C.getD d none) t) :
    Heading n H I P' C' F' d t :=
  { h with lp := lp, lc := lc, lf := lf, eq := e ▸ h.eq }

theorem phase_quiet (hp : P.getD d' .idle ≠ .ejecting) (hp' : p ≠ .ejecting := by decide) :
    Heading n H I (setAt P d' p) C F d t :=
  h.congr (by simp [h.lp]) h.lc h.lf <| by
    rw [getD_setAt]; split
    · rename_i e; rw [fire_of_phase hp', fire_of_phase (e.1 ▸ hp)]
    · rfl

theorem cur_of_phase (hp : P.getD d' .idle ≠ .ejecting) (x : Option Nat) : Heading n H I P (setAt C d' x) F d t :=
  h.congr h.lp (by simp [h.lc]) h.lf <| by
    rw [getD_setAt]; split
    · rename_i e; rw [fire_of_phase (e.1 ▸ hp), fire_of_phase (e.1 ▸ hp)]
    · rfl

theorem failed_of_phase (hp : P.getD d' .idle ≠ .ejecting) (f : Bool) : Heading n H I P C (setAt F d' f) d t :=
  h.congr h.lp h.lc (by simp [h.lf]) <| by
    rw [getD_setAt]; split
    · rename_i e; rw [fire_of_phase (e.1 ▸ hp), fire_of_phase (e.1 ▸ hp)]
    · rfl

theorem phase_cur (hp : P.getD d' .idle ≠ .ejecting) (x : Option Nat)
    (hp' : p ≠ .ejecting := by decide) :
    Heading n H I (setAt P d' p) (setAt C d' x) F d t :=
  (h.cur_of_phase hp x).phase_quiet hp hp'

theorem finish (hp : P.getD d' .idle ≠ .ejecting) :
    Heading n H I (setAt P d' .idle) (setAt C d' none) (setAt F d' false) d t :=
  ((h.cur_of_phase hp none).failed_of_phase hp false).phase_quiet hp

theorem resume (hf : F.getD d' false = true) (f : Bool) (hp' : p ≠ .ejecting := by decide) :
    Heading n H I (setAt P d' p) C (setAt F d' f) d t :=
  h.congr (by simp [h.lp]) h.lc (by simp [h.lf]) <| by
    rw [getD_setAt, getD_setAt, h.lp, h.lf]; split
    · rename_i e; rw [fire_of_phase hp', e.1, hf, fire_of_failed]
    · rfl

theorem phase_of_cur (hc : C.getD d' none = some t') (hne : t' ≠ t) (p : Phase) :
    Heading n H I (setAt P d' p) C F d t :=
  h.congr (by simp [h.lp]) h.lc h.lf <| by
    rw [getD_setAt]; split
    · rename_i e; rw [e.1, hc, fire_of_cur hne, fire_of_cur hne]
    · rfl

-- an eject of `d'` towards `t'`; in a single-source topology `t' = t` forces `d' = d`

variable (hsrc : t' = t → d' = d) (hd' : d' < n) (ht' : t' < n)
include hsrc hd' ht'

theorem start (hp : P.getD d' .idle ≠ .ejecting) (hf : F.getD d' false = false) (hc : C.getD d' none = some t') :
    Heading n (bump H t' 1) I (setAt P d' .ejecting) C F d t := by
  by_cases e : t' = t
  · obtain rfl := e; obtain rfl := hsrc rfl
    refine { h with lh := by simp [h.lh], lp := by simp [h.lp], eq := ?_ }
    rw [getD_bump, if_pos ⟨rfl, h.lh ▸ ht'⟩, getD_setAt, if_pos ⟨rfl, h.lp ▸ hd'⟩, hf, hc, fire_self, h.eq, fire_of_phase hp]
    omega
  · exact (h.heading e 1).phase_of_cur hc e _

theorem left (hp : P.getD d' .idle = .ejecting) (hf : F.getD d' false = false)
    (hc : C.getD d' none = some t') (hx : (x.length : Int) = (I.getD t' []).length + 1)
    (hp' : p ≠ .ejecting := by decide) :
    Heading n H (setAt I t' x) (setAt P d' p) C F d t := by
  by_cases e : t' = t
  · obtain rfl := e; obtain rfl := hsrc rfl
    refine { h with li := by simp [h.li], lp := by simp [h.lp], eq := ?_ }
    have := h.eq
    rw [hp, hf, hc, fire_self] at this
    rw [getD_setAt, if_pos ⟨rfl, h.li ▸ ht'⟩, getD_setAt, if_pos ⟨rfl, h.lp ▸ hd'⟩, fire_of_phase hp', hx]
    omega
  · exact (h.inc e x).phase_of_cur hc e p

theorem stuck (hp : P.getD d' .idle = .ejecting) (hf : F.getD d' false = false) (hc : C.getD d' none = some t') :
    Heading n (bump H t' (-1)) I P C (setAt F d' true) d t := by
  by_cases e : t' = t
  · obtain rfl := e; obtain rfl := hsrc rfl
    refine { h with lh := by simp [h.lh], lf := by simp [h.lf], eq := ?_ }
    have := h.eq
    rw [hp, hf, hc, fire_self] at this
    rw [getD_bump, if_pos ⟨rfl, h.lh ▸ ht'⟩, getD_setAt, if_pos ⟨rfl, h.lf ▸ hd'⟩, fire_of_failed]
    omega
  · refine (h.heading e _).congr h.lp h.lc (by simp [h.lf]) ?_
    rw [getD_setAt]
    split
    · rename_i e'
      rw [e'.1, hc, fire_of_cur e, fire_of_cur e]
    · rfl

theorem broke (hp : P.getD d' .idle = .ejecting) (hf : F.getD d' false = false) (hc : C.getD d' none = some t')
    (hp' : p ≠ .ejecting := by decide) : Heading n (bump H t' (-1)) I (setAt P d' p) C F d t := by
  by_cases e : t' = t
  · obtain rfl := e; obtain rfl := hsrc rfl
    refine { h with lh := by simp [h.lh], lp := by simp [h.lp], eq := ?_ }
    have := h.eq
    rw [hp, hf, hc, fire_self] at this
    rw [getD_bump, if_pos ⟨rfl, h.lh ▸ ht'⟩, getD_setAt, if_pos ⟨rfl, h.lp ▸ hd'⟩, fire_of_phase hp']
    omega
  · exact (h.heading e _).phase_of_cur hc e p

end Heading

theorem getD_replicate {α : Type} (n i : Nat) (v : α) : (List.replicate n v).getD i v = v := by
  rw [List.getD_eq_getElem?_getD, List.getElem?_replicate]
  split <;> rfl

theorem init_hinv (c : Cfg) (counts : List Int) (d t : Nat) : HInv c (initSt c counts) d t := by
  refine ⟨by simp [initSt], by simp [initSt], by simp [initSt], by simp [initSt], by simp [initSt], ?_⟩
  simp only [initSt, getD_replicate]
  rfl

end MpfVerif.BallLedger
