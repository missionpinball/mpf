import MpfVerif.Model.CondDispatch
import MpfVerif.Lemmas.Template
namespace MpfVerif.CondDispatch
open MpfVerif.Template

theorem dispatch_nil (k : Kind) (w : World) : dispatch k w [] = w := rfl
theorem dispatch_cons (k : Kind) (w : World) (h : Handler) (hs : List Handler) :
    dispatch k w (h :: hs) = dispatch k (stepH k w h) hs := rfl

theorem stepH_halted (k : Kind) (w : World) (h : Handler) (hw : w.st ≠ .running) : stepH k w h = w := by
  simp [stepH, hw]

theorem dispatch_halted (k : Kind) (w : World) (hs : List Handler) (hw : w.st ≠ .running) : dispatch k w hs = w := by
  induction hs with
  | nil => rfl
  | cons h t ih => rw [dispatch_cons, stepH_halted k w h hw]; exact ih

theorem applyAct_ran (w : World) (a : Act) : (applyAct w a).ran = w.ran := by
  cases a with
  | set l v => rfl
  | fire t => rfl
  | add l n =>
    simp only [applyAct]
    split
    · rfl
    · split <;> rfl
    · rfl

theorem stepS_ran (hk : List (String × Val)) (w : World) (s : Step) : (stepS hk w s).ran = w.ran := by
  unfold stepS
  split
  · rfl
  · split
    · exact applyAct_ran w s.act
    · rfl
    · rfl
    · rfl

theorem steps_ran (hk : List (String × Val)) (w : World) (ss : List Step) : (ss.foldl (stepS hk) w).ran = w.ran := by
  induction ss generalizing w with
  | nil => rfl
  | cons s t ih => rw [List.foldl_cons, ih, stepS_ran]

theorem stepH_ran (k : Kind) (w : World) (h : Handler) :
    (stepH k w h).ran = if w.st = .running ∧ verdict (condEnv w h.kw) h.cond = .yes then w.ran ++ [h.id] else w.ran := by
  by_cases hw : w.st = .running
  · cases hv : verdict (condEnv w h.kw) h.cond with
    | yes =>
      -- whatever the kind of post does with the world the steps left, it keeps the log
      simp [stepH, hw, hv, apply_ite World.ran, steps_ran]
    | _ => simp [stepH, hw, hv]
  · simp [stepH, hw]

theorem mem_ran_dispatch (k : Kind) (w : World) (hs : List Handler) (x : Nat) (hx : x ∉ hs.map (·.id)) :
    x ∈ (dispatch k w hs).ran ↔ x ∈ w.ran := by
  induction hs generalizing w with
  | nil => rfl
  | cons h t ih =>
    rw [List.map_cons, List.mem_cons, not_or] at hx
    rw [dispatch_cons, ih _ hx.2, stepH_ran]
    split
    · simp [hx.1]
    · rfl

theorem insertH_mem (h x : Handler) (hs : List Handler) : x ∈ insertH h hs ↔ x = h ∨ x ∈ hs := by
  induction hs with
  | nil => simp [insertH]
  | cons y t ih =>
    simp only [insertH]
    split
    · rw [List.mem_cons, ih, List.mem_cons, or_left_comm]
    · simp only [List.mem_cons]

/-- the order `EventManager` keeps a handler list in: priority descending -/
def Sorted (hs : List Handler) : Prop := hs.Pairwise (fun a b => a.prio ≥ b.prio)

end MpfVerif.CondDispatch
