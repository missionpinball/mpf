import MpfVerif.Gen.BcpCodec
import MpfVerif.Lemmas.Bcp
/-!
# The hand model of the BCP codec IS the translated source (C19)

`Gen/BcpCodec.lean` holds `decode_command_string` / `encode_command_string` of `mpf/core/bcp/bcp_socket_client.py` as data
(regenerated from the source on every check by `translate/bcp_codec.py`); `Model/PyStr.lean` is the fixed interpreter.
  * `decode_refines_source` : running the translated decoder on ANY byte list gives `Bcp.decode` of it;
  * `encode_refines_source` : running the translated encoder on ANY command / argument list returns `PyStr.encode`
    (= `Bcp.encodeJson` when a value is a dict/list or a key is `json`, else `Bcp.encodeFlat` of the scalars);
  * neither run is ever stuck (`runDecode?_eq`, and `runEncode … = some …`).
Proof shape: one lemma per loop ROUND (body run from any store whose dict / string variable has a given value), the loop by
induction over the iterated list, the straight-line parts by `simp` with the interpreter's equations (simp lemmas in this file).
-/
namespace MpfVerif.PyStr
open MpfVerif.Bcp MpfVerif.Gen.BcpCodec

attribute [local simp] execL execS eval onStr onVal defined set sv bv truthy ofOpt instOf argPV strText

variable (dumps : List (Bytes × Arg) → Bytes)

theorem execL_append (a b : List St) (σ : Store) :
    execL dumps (a ++ b) σ = match execL dumps a σ with | .next σ' => execL dumps b σ' | o => o := by
  induction a generalizing σ with
  | nil => simp [execL]
  | cons s r ih =>
    simp only [List.cons_append, execL]
    cases execS dumps s σ <;> simp [ih]

/- the statements before the `for` loop, after it, and its body; `decodeProg_split` checks the positions in the generated list -/
def decPre : List St := decodeProg.take 3
def decPost : List St := decodeProg.drop 4
def decBody : List St :=
  match decodeProg with
  | _ :: _ :: _ :: .forStr _ _ b :: _ => b
  | _ => []

theorem decodeProg_split :
    decodeProg = decPre ++ .forStr 3 (.split 38 (.query (.var 1))) decBody :: decPost := rfl

/-- one round of the hand model's loop on its accumulator (kept in reverse order; the dict of the source is its reverse) -/
def stepPair (acc : List (Bytes × Val)) (p : Bytes) : Option (List (Bytes × Val)) :=
  if p.isEmpty then some acc else
  if hasKey (unquote (plusToSpace (splitFirst 61 p).1)) acc then some acc else
  (decodeValue ((splitFirst 61 p).2.getD [])).map (fun v => (unquote (plusToSpace (splitFirst 61 p).1), v) :: acc)

theorem decodePairs_cons (p : Bytes) (rest : List Bytes) (acc : List (Bytes × Val)) :
    decodePairs (p :: rest) acc = match stepPair acc p with
      | some acc' => decodePairs rest acc'
      | none => none := by
  rcases hs : splitFirst 61 p with ⟨n, v⟩
  simp only [decodePairs, stepPair, hs]
  split
  · rfl
  · split
    · rfl
    · cases decodeValue (v.getD []) <;> rfl

theorem dictSet_new (k : Bytes) (v : Val) (l : List (Bytes × Val)) (h : hasKey k l = false) :
    dictSet k v l = l ++ [(k, v)] := by
  induction l with
  | nil => rfl
  | cons a r ih =>
    obtain ⟨k', v'⟩ := a
    simp only [hasKey, Bool.or_eq_false_iff, decide_eq_false_iff_not] at h
    simp [dictSet, h.1, ih h.2]

theorem hasKey_append (k : Bytes) (a b : List (Bytes × Val)) : hasKey k (a ++ b) = (hasKey k a || hasKey k b) := by
  induction a with
  | nil => simp [hasKey]
  | cons x r ih =>
    obtain ⟨k', v'⟩ := x
    simp [hasKey, ih, Bool.or_assoc]

theorem hasKey_reverse (k : Bytes) (l : List (Bytes × Val)) : hasKey k l.reverse = hasKey k l := by
  induction l with
  | nil => rfl
  | cons x r ih =>
    obtain ⟨k', v'⟩ := x
    simp [hasKey, hasKey_append, ih, Bool.or_comm]

attribute [local simp] decPre decPost decodeProg hasKey_reverse

/-- `r` is what the hand model does with the pair; the hypotheses named in each `simp` are the branch facts the run depends on -/
theorem decBody_step (σ : Store) (acc : List (Bytes × Val)) (p : Bytes) (h2 : σ 2 = .dict acc.reverse)
    (r : Option (List (Bytes × Val))) (hr : stepPair acc p = r) :
    match (generalizing := false) r with
    | some acc' => ∃ σ', (execL dumps decBody (set σ 3 (sv p)) = .next σ' ∨ execL dumps decBody (set σ 3 (sv p)) = .cont σ')
        ∧ σ' 2 = .dict acc'.reverse ∧ σ' 1 = σ 1
    | none => execL dumps decBody (set σ 3 (sv p)) = .err .value := by
  subst hr
  unfold stepPair
  by_cases hp : p.isEmpty = true
  · simp [decBody, hp, h2]
  · have hp' : p.isEmpty = false := by simpa using hp
    cases hk : hasKey (unquote (plusToSpace (splitFirst 61 p).1)) acc with
    | true => simp [decBody, hp', hk, h2]
    | false =>
      simp only [hp']
      unfold decodeValue
      simp only [pInt, pFloat, sBoolTrue, sBoolFalse, sNone]
      generalize hraw : (splitFirst 61 p).2.getD [] = raw
      -- the key is new, so `kwargs[name] = …` appends
      have hds := fun v => dictSet_new _ v _ ((hasKey_reverse _ acc).trans hk)
      by_cases h1 : [105, 110, 116, 58].isPrefixOf raw = true
      · cases hi : parseInt (List.drop 4 (unquote (plusToSpace raw))) with
        | none => simp [decBody, hp', hk, h2, hraw, h1, hi]
        | some i => simp [decBody, hp', hk, h2, hraw, hds, h1, hi]
      · by_cases h2' : [102, 108, 111, 97, 116, 58].isPrefixOf raw = true
        · simp [decBody, hp', hk, h2, hraw, hds, h1, h2']
        · by_cases h3 : toLower raw = [98, 111, 111, 108, 58, 116, 114, 117, 101]
          · simp [decBody, hp', hk, h2, hraw, hds, h1, h2', h3]
          · by_cases h4 : toLower raw = [98, 111, 111, 108, 58, 102, 97, 108, 115, 101]
            · simp [decBody, hp', hk, h2, hraw, hds, h1, h2', h4]
            · by_cases h5 : raw = [78, 111, 110, 101, 84, 121, 112, 101, 58]
              · subst h5
                simp [decBody, hp', hk, h2, hraw, hds, h1, h2', h3, h4]
              · simp [decBody, hp', hk, h2, hraw, hds, h1, h2', h3, h4, h5]

theorem dec_loop (ps : List Bytes) (σ : Store) (acc : List (Bytes × Val)) (h2 : σ 2 = .dict acc.reverse)
    (r : Option (List (Bytes × Val))) (hr : decodePairs ps acc = r) :
    match (generalizing := false) r with
    | some kw => ∃ σ', iterStr (execL dumps decBody) 3 ps σ = .next σ' ∧ σ' 2 = .dict kw ∧ σ' 1 = σ 1
    | none => iterStr (execL dumps decBody) 3 ps σ = .err .value := by
  induction ps generalizing σ acc with
  | nil =>
    subst hr
    exact ⟨σ, rfl, h2, rfl⟩
  | cons p rest ih =>
    rw [decodePairs_cons] at hr
    cases hsp : stepPair acc p with
    | none =>
      have hs := decBody_step dumps σ acc p h2 _ hsp
      rw [hsp] at hr
      subst hr
      simp only [iterStr, hs]
    | some acc' =>
      obtain ⟨σ', ho, h2', h1'⟩ := decBody_step dumps σ acc p h2 _ hsp
      rw [hsp] at hr
      have hit : iterStr (execL dumps decBody) 3 (p :: rest) σ = iterStr (execL dumps decBody) 3 rest σ' := by
        rcases ho with ho | ho <;> simp only [iterStr, ho]
      simpa only [hit, h1'] using ih σ' acc' h2' hr

theorem runDecode?_eq (line : Bytes) : runDecode? decodeProg line = some (decode line) := by
  rcases hs : splitFirst 63 line with ⟨cmd, qo⟩
  generalize hq : qo.getD [] = q
  unfold runDecode? decode
  rw [decodeProg_split, execL_append]
  simp only [hs, hq]
  cases hj : sJsonEq.isPrefixOf q with
  | true => simp [hs, hq, take5_json, hj]
  | false =>
    have hpre : execL (fun _ => []) decPre (set Store.empty 0 (sv line)) =
        .next (set (set (set Store.empty 0 (sv line)) 1 (.url cmd q)) 2 (.dict [])) := by
      simp [hs, hq, take5_json, hj]
    rw [hpre]
    cases hf : decodePairs (splitAll 38 q) [] with
    | none =>
      have hl := dec_loop (fun _ => []) (splitAll 38 q) _ [] (show set (set (set Store.empty 0 (sv line)) 1 (.url cmd q)) 2
        (.dict []) 2 = _ from rfl) _ hf
      simp only [sv] at hl
      simp [hl]
    | some D' =>
      obtain ⟨σ', e1, e2, e3⟩ := dec_loop (fun _ => []) (splitAll 38 q) _ [] (show set (set (set Store.empty 0 (sv line)) 1
        (.url cmd q)) 2 (.dict []) 2 = _ from rfl) _ hf
      simp only [sv] at e1
      simp [set] at e3
      simp [e1, e2, e3]

/-- **The hand model's decoder is the translated source**: interpreting the program generated from
`decode_command_string` on any byte list gives `Bcp.decode` of it (flat parameters, the JSON branch, or the ValueError of
`int()`); the run is never stuck (`runDecode?_eq`). -/
theorem decode_refines_source (line : Bytes) : runDecode decodeProg line = decode line := by
  rw [runDecode, runDecode?_eq]
  rfl

/- likewise for the encoder -/
def encPre : List St := encodeProg.take 2
def encPost : List St := encodeProg.drop 3
def encBody : List St :=
  match encodeProg with
  | _ :: _ :: .forItems _ _ _ b :: _ => b
  | _ => []

theorem encodeProg_split : encodeProg = encPre ++ .forItems 4 5 (.var 1) encBody :: encPost := rfl

attribute [local simp] encPre encPost encodeProg

/-- a round on an entry that needs JSON: `json_needed = True; break` -/
theorem encBody_json (σ : Store) (k : Bytes) (a : Arg) (h : (isNested a || decide (k = sJson)) = true) :
    ∃ σ', execL dumps encBody (set (set σ 4 (sv k)) 5 (argPV a)) = .brk σ' ∧ σ' 3 = bv true ∧ σ' 2 = σ 2 ∧ σ' 0 = σ 0 ∧ σ' 1 = σ 1 := by
  cases a with
  | nested n => simp [encBody]
  | scalar v =>
    have hk : k = [106, 115, 111, 110] := by
      simp only [isNested, Bool.false_or] at h
      exact of_decide_eq_true h
    simp [encBody, hk]

/-- a round on a scalar entry: `kwarg_string += 'k=v&'` -/
theorem encBody_flat (σ : Store) (S k : Bytes) (v : Val) (h2 : σ 2 = sv S) (hk : k ≠ sJson) :
    ∃ σ', execL dumps encBody (set (set σ 4 (sv k)) 5 (argPV (.scalar v))) = .next σ' ∧
      σ' 2 = sv (S ++ (encodePair (k, v) ++ [38])) ∧ σ' 3 = σ 3 ∧ σ' 0 = σ 0 ∧ σ' 1 = σ 1 := by
  have hk' : ¬ k = [106, 115, 111, 110] := hk
  simp only [sv] at h2
  cases v <;> simp [encBody, hk', h2, encodePair, encodeValue, pInt, pFloat, pBool, sNone]

theorem enc_loop (l : List (Bytes × Arg)) (σ : Store) (S : Bytes) (h2 : σ 2 = sv S) (h3 : σ 3 = bv false) :
    ∃ σ', iterItems (execL dumps encBody) 4 5 l σ = .next σ' ∧ σ' 0 = σ 0 ∧ σ' 1 = σ 1 ∧
      (if needsJson l then σ' 3 = bv true ∧ ∃ S', σ' 2 = sv S'
       else σ' 3 = bv false ∧ σ' 2 = sv (S ++ (((scalarsOf l).map encodePair).map (· ++ [38])).flatten)) := by
  induction l generalizing σ S with
  | nil => exact ⟨σ, rfl, rfl, rfl, by simp [needsJson, scalarsOf, h2, h3]⟩
  | cons kv r ih =>
    obtain ⟨k, a⟩ := kv
    cases hj : (isNested a || decide (k = sJson)) with
    | true =>
      obtain ⟨σ', e, e3, e2, e0, e1⟩ := encBody_json dumps σ k a hj
      refine ⟨σ', by simp only [iterItems, e], e0, e1, ?_⟩
      simp only [needsJson, hj, Bool.true_or, if_true]
      exact ⟨e3, S, e2.trans h2⟩
    | false =>
      cases a with
      | nested n => simp [isNested] at hj
      | scalar v =>
        have hk : k ≠ sJson := by simpa [isNested] using hj
        obtain ⟨σ', e, e2, e3, e0, e1⟩ := encBody_flat dumps σ S k v h2 hk
        obtain ⟨σ'', f, f0, f1, f2⟩ := ih σ' _ e2 (e3.trans h3)
        refine ⟨σ'', by simp only [iterItems, e, f], f0.trans e0, f1.trans e1, ?_⟩
        have hn : needsJson ((k, Arg.scalar v) :: r) = needsJson r := by simp [needsJson, isNested, hk]
        rw [hn]
        simpa [scalarsOf] using f2

theorem encPost_run (σ : Store) (cmd S : Bytes) (l : List (Bytes × Arg)) (j : Bool)
    (h0 : σ 0 = sv cmd) (h1 : σ 1 = .args l) (h2 : σ 2 = sv S) (h3 : σ 3 = bv j) :
    execL dumps encPost σ = .ret (sv (if j then encodeJson cmd (dumps l)
      else if S.dropLast.isEmpty then cmd else cmd ++ 63 :: S.dropLast)) := by
  simp only [sv, bv] at h0 h2 h3
  cases j with
  | true => simp [h0, h1, h2, h3, encodeJson, sJsonEq]
  | false => by_cases he : S.dropLast.isEmpty = true <;> simp [h0, h2, h3, he]

/-- **The hand model's encoder is the translated source**: interpreting the program generated from
`encode_command_string` on any command and any argument list (scalars and dict/list values, any keys, `dumps` = whatever
`json.dumps(kwargs, cls=MpfJSONEncoder)` returns) returns — never raises, is never stuck — the hand model's `encode`:
`Bcp.encodeJson` when some value is a dict/list or some key is `json` (the flat text built so far is discarded), else
`Bcp.encodeFlat` of the scalars (no `?` for an empty parameter list). -/
theorem encode_refines_source (cmd : Bytes) (args : List (Bytes × Arg)) :
    runEncode dumps encodeProg cmd args = some (encode dumps cmd args) := by
  unfold runEncode
  rw [encodeProg_split, execL_append]
  have hpre : execL dumps encPre (set (set Store.empty 0 (sv cmd)) 1 (.args args)) =
      .next (set (set (set (set Store.empty 0 (sv cmd)) 1 (.args args)) 2 (sv [])) 3 (bv false)) := by
    simp
  obtain ⟨σ', e, e0, e1, e23⟩ := enc_loop dumps args
    (set (set (set (set Store.empty 0 (sv cmd)) 1 (.args args)) 2 (sv [])) 3 (bv false)) [] rfl rfl
  have hloop : execS dumps (.forItems 4 5 (.var 1) encBody)
      (set (set (set (set Store.empty 0 (sv cmd)) 1 (.args args)) 2 (sv [])) 3 (bv false)) = .next σ' := by
    rw [← e]
    simp
  rw [hpre]
  simp only [execL, hloop]
  unfold encode
  cases hn : needsJson args with
  | true =>
    simp only [hn, if_true] at e23
    obtain ⟨e3, S', e2⟩ := e23
    rw [encPost_run dumps σ' cmd S' args true e0 e1 e2 e3]
    rfl
  | false =>
    simp only [hn] at e23
    obtain ⟨e3, e2⟩ := e23
    rw [encPost_run dumps σ' cmd _ args false e0 e1 e2 e3]
    simp only [List.nil_append, dropLast_flatten_amp, joinAmp_pairs_isEmpty, encodeFlat, sv, Bool.false_eq_true, if_false]

theorem encode_scalars (cmd : Bytes) (kw : List (Bytes × Val)) (hj : ∀ kv ∈ kw, kv.1 ≠ sJson) :
    encode dumps cmd (kw.map fun kv => (kv.1, Arg.scalar kv.2)) = encodeFlat cmd kw := by
  have h : needsJson (kw.map fun kv => (kv.1, Arg.scalar kv.2)) = false ∧
      scalarsOf (kw.map fun kv => (kv.1, Arg.scalar kv.2)) = kw := by
    induction kw with
    | nil => exact ⟨rfl, rfl⟩
    | cons kv r ih =>
      rw [List.forall_mem_cons] at hj
      simp [needsJson, scalarsOf, isNested, hj.1, ih hj.2]
  simp [encode, h]

/-- `trigger?name=a%20b&n=int:5&b=bool:True&z=NoneType:&name=again&&f=float:1.5` (a repeated name and a blank pair are skipped) -/
example : runDecode decodeProg [116, 114, 105, 103, 103, 101, 114, 63, 110, 97, 109, 101, 61, 97, 37, 50, 48, 98, 38, 110, 61,
    105, 110, 116, 58, 53, 38, 98, 61, 98, 111, 111, 108, 58, 84, 114, 117, 101, 38, 122, 61, 78, 111, 110, 101, 84, 121, 112,
    101, 58, 38, 110, 97, 109, 101, 61, 97, 103, 97, 105, 110, 38, 38, 102, 61, 102, 108, 111, 97, 116, 58, 49, 46, 53] =
    .flat [116, 114, 105, 103, 103, 101, 114]
      [([110, 97, 109, 101], .str [97, 32, 98]), ([110], .int 5), ([98], .bool true), ([122], .none), ([102], .flt [49, 46, 53])] := by
  decide +kernel

/-- `t?n=int:x` is the ValueError of `int()`; `t?json={"a": [1]}` takes the JSON branch -/
example : runDecode? decodeProg [116, 63, 110, 61, 105, 110, 116, 58, 120] = some .error ∧
    runDecode? decodeProg [116, 63, 106, 115, 111, 110, 61, 123, 34, 97, 34, 58, 32, 91, 49, 93, 125] =
      some (.json [116] [123, 34, 97, 34, 58, 32, 91, 49, 93, 125]) := by
  decide +kernel

/-- `encode_command_string('t', a=-5, b=' !', c=False, d=None, e=1.5)` = `t?a=int:-5&b=%20%21&c=bool:False&d=NoneType:&e=float:1.5` -/
example : runEncode (fun _ => [91, 93]) encodeProg [116]
    [([97], .scalar (.int (-5))), ([98], .scalar (.str [32, 33])), ([99], .scalar (.bool false)), ([100], .scalar .none),
     ([101], .scalar (.flt [49, 46, 53]))] =
    some [116, 63, 97, 61, 105, 110, 116, 58, 45, 53, 38, 98, 61, 37, 50, 48, 37, 50, 49, 38, 99, 61, 98, 111, 111, 108, 58, 70, 97,
      108, 115, 101, 38, 100, 61, 78, 111, 110, 101, 84, 121, 112, 101, 58, 38, 101, 61, 102, 108, 111, 97, 116, 58, 49, 46, 53] := by
  decide +kernel

/-- a list value after a scalar, a parameter called `json`, no parameters: `t?json=[]`, `t?json=[]`, `t` -/
example : runEncode (fun _ => [91, 93]) encodeProg [116] [([97], .scalar (.int 1)), ([98], .nested 0)] =
      some [116, 63, 106, 115, 111, 110, 61, 91, 93] ∧
    runEncode (fun _ => [91, 93]) encodeProg [116] [([106, 115, 111, 110], .scalar (.int 1))] =
      some [116, 63, 106, 115, 111, 110, 61, 91, 93] ∧
    runEncode (fun _ => [91, 93]) encodeProg [116] [] = some [116] := by
  decide +kernel

end MpfVerif.PyStr
