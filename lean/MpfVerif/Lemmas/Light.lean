import MpfVerif.Model.Light
/-! Helper lemmas for C09: the priority stack and its edits, `_schedule_update`, interpolation, one fade channel. -/
namespace MpfVerif.Light

/-- strict order on distinct keys: the invariant of `Light.stack` -/
def Above (a b : Entry) : Prop := abv a.prio a.key b.prio b.key ∧ a.key ≠ b.key

def SortedU (s : List Entry) : Prop := s.Pairwise Above

theorem abv_trans {p k p' k' p'' k'' : Nat} (h1 : abv p k p' k') (h2 : abv p' k' p'' k'') : abv p k p'' k'' := by
  unfold abv at *; omega

theorem abv_total {p k p' k' : Nat} (h : k ≠ k') : abv p k p' k' ∨ abv p' k' p k := by
  unfold abv; omega

theorem abv_asymm {p k p' k' : Nat} (h : abv p k p' k') : ¬ abv p' k' p k := by
  unfold abv at *; omega

theorem abv_irrefl (p k : Nat) : ¬ abv p k p k := by unfold abv; omega

theorem mem_insertE (e y : Entry) (s : List Entry) : y ∈ insertE e s ↔ y = e ∨ y ∈ s := by
  induction s with
  | nil => simp [insertE]
  | cons x r ih =>
    unfold insertE
    split <;> simp [ih, or_left_comm]

theorem insertE_sorted (e : Entry) (s : List Entry) (hs : SortedU s) (hk : ∀ x ∈ s, x.key ≠ e.key) :
    SortedU (insertE e s) := by
  induction s with
  | nil => simp [insertE, SortedU]
  | cons x r ih =>
    obtain ⟨hx, hr⟩ := List.pairwise_cons.mp hs
    obtain ⟨hxe, hk⟩ := List.forall_mem_cons.mp hk
    unfold insertE
    split
    next h =>
      refine List.pairwise_cons.mpr ⟨List.forall_mem_cons.mpr ⟨⟨h, hxe.symm⟩, fun y hy => ?_⟩, hs⟩
      exact ⟨abv_trans h (hx y hy).1, (hk y hy).symm⟩
    next h =>
      refine List.pairwise_cons.mpr ⟨fun y hy => ?_, ih hr hk⟩
      rcases (mem_insertE e y r).mp hy with rfl | hy
      · exact ⟨(abv_total hxe).resolve_right h, hxe⟩
      · exact hx y hy

@[simp] theorem mem_removeKey (k : Nat) (s : List Entry) (x : Entry) : x ∈ removeKey k s ↔ x ∈ s ∧ x.key ≠ k := by
  simp [removeKey]

theorem removeKey_sorted (k : Nat) (s : List Entry) (hs : SortedU s) : SortedU (removeKey k s) :=
  List.Pairwise.filter _ hs

theorem removeKey_absent (k : Nat) (s : List Entry) (h : ∀ x ∈ s, x.key ≠ k) : removeKey k s = s :=
  List.filter_eq_self.mpr fun x hx => decide_eq_true (h x hx)

theorem removeKey_append (k : Nat) (A X : List Entry) : removeKey k (A ++ X) = removeKey k A ++ removeKey k X :=
  List.filter_append ..

theorem removeKey_idem (k : Nat) (s : List Entry) : removeKey k (removeKey k s) = removeKey k s := by
  simp [removeKey]

theorem removeKey_insertE (e : Entry) (s : List Entry) : removeKey e.key (insertE e s) = removeKey e.key s := by
  induction s with
  | nil => simp [insertE, removeKey]
  | cons x r ih =>
    unfold insertE
    split
    · exact List.filter_cons_of_neg (by simp)
    · simp only [removeKey, List.filter_cons] at ih ⊢
      rw [ih]

theorem insertE_append (g : Entry) (A X : List Entry) (h : ∀ a ∈ A, ¬ abv g.prio g.key a.prio a.key) :
    insertE g (A ++ X) = A ++ insertE g X := by
  induction A with
  | nil => rfl
  | cons a A ih =>
    obtain ⟨ha, h⟩ := List.forall_mem_cons.mp h
    rw [List.cons_append, insertE, if_neg ha, ih h, List.cons_append]

/-- in a sorted stack the entries above (p, k) are a prefix -/
theorem dropWhile_eq_filter_sorted (p k : Nat) (s : List Entry) (hs : SortedU s) :
    s.dropWhile (fun e => decide (abv e.prio e.key p k)) = s.filter (fun e => !decide (abv e.prio e.key p k)) := by
  induction s with
  | nil => rfl
  | cons x r ih =>
    obtain ⟨hx, hr⟩ := List.pairwise_cons.mp hs
    by_cases h : abv x.prio x.key p k
    · simp [h, ih hr]
    · have hr' : ∀ y ∈ r, (!decide (abv y.prio y.key p k)) = true := fun y hy => by
        rw [decide_eq_false fun hy2 => h (abv_trans (hx y hy).1 hy2)]
        rfl
      simpa [h] using (List.filter_eq_self.mpr hr').symm

/-- `color_changes` of `remove_from_stack_by_key` is still true iff everything above the key is transparent -/
theorem scanKey_spec {k : Nat} {s : List Entry} {ch0 ch : Bool} {tail : List Entry}
    (h : scanKey k s ch0 = some (ch, tail)) :
    ∃ A e tl, s = A ++ e :: tl ∧ tail = e :: tl ∧ e.key = k ∧ (∀ a ∈ A, a.key ≠ k) ∧
      ch = (ch0 && A.all (·.destC.isNone)) := by
  induction s generalizing ch0 with
  | nil => simp [scanKey] at h
  | cons e r ih =>
    unfold scanKey at h
    split at h
    next hk =>
      cases h
      exact ⟨[], e, r, rfl, rfl, hk, nofun, (Bool.and_true _).symm⟩
    next hk =>
      obtain ⟨A, e', tl, rfl, rfl, hk', hkeys, rfl⟩ := ih h
      exact ⟨e :: A, e', tl, rfl, rfl, hk', List.forall_mem_cons.mpr ⟨hk, hkeys⟩, by rw [List.all_cons, Bool.and_assoc]⟩

theorem scanKey_none {k : Nat} {s : List Entry} {ch : Bool} (h : scanKey k s ch = none) : ∀ x ∈ s, x.key ≠ k := by
  induction s generalizing ch with
  | nil => simp
  | cons e r ih =>
    unfold scanKey at h
    split at h
    · simp at h
    next hne => exact List.forall_mem_cons.mpr ⟨hne, ih h⟩

theorem scanGhost_spec {k : Nat} {s : List Entry} {ch0 ch : Bool} (h : scanGhost k s ch0 = some ch) :
    ∃ A B, s = A ++ B ∧ (∀ a ∈ A, (decide (a.key ≠ k) || a.destC.isSome) = true) ∧
      ch = (ch0 && A.all (·.destC.isNone)) := by
  induction s generalizing ch0 with
  | nil => simp [scanGhost] at h
  | cons e r ih =>
    unfold scanGhost at h
    split at h
    · cases h
      exact ⟨[], e :: r, rfl, nofun, (Bool.and_true _).symm⟩
    next hk =>
      obtain ⟨A, B, rfl, hkeys, rfl⟩ := ih h
      have hk : (decide (e.key ≠ k) || e.destC.isSome) = true := by
        cases hc : e.destC with
        | some _ => simp
        | none => simpa [hc] using hk
      exact ⟨e :: A, B, rfl, List.forall_mem_cons.mpr ⟨hk, hkeys⟩, by rw [List.all_cons, Bool.and_assoc]⟩

theorem scanGhost_none {k : Nat} {s : List Entry} {ch : Bool} (h : scanGhost k s ch = none) :
    ∀ x ∈ s, ¬ (x.key = k ∧ x.destC.isNone = true) := by
  induction s generalizing ch with
  | nil => simp
  | cons e r ih =>
    unfold scanGhost at h
    split at h
    · simp at h
    next hne => exact List.forall_mem_cons.mpr ⟨hne, ih h⟩

theorem schedule_cases (s : LSt) :
    (schedule s = (s, []) ∧ ∃ l, s.last = some l ∧ l.tc = (targetOf s.stack).tc) ∨
    schedule s = ({ s with last := some (targetOf s.stack) }, [targetOf s.stack]) := by
  unfold schedule
  cases hl : s.last with
  | none => exact Or.inr rfl
  | some l =>
    simp only
    split
    next h => exact Or.inl ⟨rfl, l, rfl, by rw [h]⟩
    · split
      next h => exact Or.inl ⟨rfl, l, rfl, h.1.symm⟩
      · exact Or.inr rfl

theorem schedule_stack (s : LSt) : (schedule s).1.stack = s.stack := by
  rcases schedule_cases s with ⟨h, _⟩ | h <;> rw [h]

theorem schedule_now (s : LSt) : (schedule s).1.now = s.now := by
  rcases schedule_cases s with ⟨h, _⟩ | h <;> rw [h]

theorem addStack_sorted (now : Nat) (c : RGB) (fade p k st : Nat) (s : List Entry) (hs : SortedU s) :
    SortedU (addStack now c fade p k st s) := by
  unfold addStack
  split
  · exact hs
  · refine insertE_sorted _ _ (removeKey_sorted k s hs) fun x hx => ?_
    have := ((mem_removeKey ..).mp hx).2
    split <;> exact this

theorem stepColor_stack (s : LSt) (c : RGB) (fade p k st : Nat) :
    (stepColor s c fade p k st).1.stack = addStack s.now c fade p k st s.stack := by
  unfold stepColor
  split
  · rw [schedule_stack]
  · rfl

theorem addStack_removeKey (now : Nat) (c : RGB) (fade p k st : Nat) (s : List Entry) :
    removeKey k (addStack now c fade p k st s) = removeKey k s := by
  unfold addStack
  split
  · rfl
  · split <;> exact (removeKey_insertE ⟨p, k, _, _, _, _⟩ _).trans (removeKey_idem k s)

theorem stepRemove_zero_stack (s : LSt) (k : Nat) : (stepRemove s k 0).1.stack = removeKey k s.stack := by
  unfold stepRemove
  split
  next h => exact (removeKey_absent k _ (scanKey_none h)).symm
  next h =>
    obtain ⟨_, _, _, _, h, _⟩ := scanKey_spec h
    cases h
  · simp only [ite_self, if_true]
    split
    · rw [schedule_stack]
    · rfl

theorem mul_div_le (d : Nat) {k n : Nat} (hk : k ≤ n) : d * k / n ≤ d :=
  Nat.div_le_of_le_mul (Nat.mul_comm n d ▸ Nat.mul_le_mul_left d hk)

theorem blend1_between (s e k n : Nat) (hk : k ≤ n) : min s e ≤ blend1 s e k n ∧ blend1 s e k n ≤ max s e := by
  unfold blend1
  split
  next h =>
    rw [Nat.min_eq_left h, Nat.max_eq_right h]
    exact ⟨Nat.le_add_right .., Nat.add_le_of_le_sub' h (mul_div_le (e - s) hk)⟩
  next h =>
    have h := Nat.le_of_not_le h
    rw [Nat.min_eq_right h, Nat.max_eq_left h]
    exact ⟨Nat.le_sub_of_add_le (Nat.add_le_of_le_sub' h (mul_div_le (s - e) hk)), Nat.sub_le ..⟩

theorem blend1_zero (s e n : Nat) : blend1 s e 0 n = s := by simp [blend1]

theorem blend1_full (s e n : Nat) (hn : 0 < n) : blend1 s e n n = e := by
  unfold blend1
  split
  next h => rw [Nat.mul_div_cancel _ hn, Nat.add_sub_of_le h]
  next h => rw [Nat.mul_div_cancel _ hn, Nat.sub_sub_self (Nat.le_of_not_le h)]

/-- the channel invariant: no live task, and the last commanded brightness is the latest command's target — or exactly
one, which is `self.task` and carries the latest command -/
def ChanOK (c : Chan) : Prop :=
  (c.tasks = [] ∧ ∀ m, c.cmd = some m → c.lastB = (m.tb, 255)) ∨
  ∃ t, c.tasks = [t] ∧ c.cur = some t.id ∧ c.cmd = some ⟨t.sb, t.st, t.tb, some t.tt⟩

theorem chanOK_init (M : Nat) : ChanOK { maxFade := M } := Or.inl ⟨rfl, by simp⟩

theorem cancelled_of_ok {c : Chan} (h : ChanOK c) : c.cancelled = [] := by
  unfold Chan.cancelled
  rcases h with ⟨h, _⟩ | ⟨t, ht, hc, _⟩
  · rw [h]; cases c.cur <;> rfl
  · simp [ht, hc]

theorem setFade_ok (c : Chan) (now : Nat) (m : Cmd) (h : ChanOK c) : ChanOK (c.setFade now m).1 := by
  unfold Chan.setFade
  rw [cancelled_of_ok h]
  have rest (c' : Chan) (ht : c'.tasks = []) (hc : c'.cmd = some m) (hb : c'.lastB = (m.tb, 255)) : ChanOK c' :=
    Or.inl ⟨ht, fun m' hm => by rw [hc] at hm; cases hm; exact hb⟩
  split
  next T hT =>
    split
    · exact Or.inr ⟨⟨c.nextId, m.sb, m.st, m.tb, T, now⟩, rfl, rfl, by simp [← hT]⟩
    · exact rest _ rfl rfl rfl
  · exact rest _ rfl rfl rfl

theorem setFade_cmd (c : Chan) (now : Nat) (m : Cmd) : (c.setFade now m).1.cmd = some m := by
  unfold Chan.setFade
  split
  · split <;> rfl
  · rfl

theorem setFade_maxFade (c : Chan) (now : Nat) (m : Cmd) : (c.setFade now m).1.maxFade = c.maxFade := by
  unfold Chan.setFade
  split
  · split <;> rfl
  · rfl

theorem firstDue_mem {now : Nat} {l : List Task} {t : Task} (h : firstDue now l = some t) : t ∈ l := by
  induction l with
  | nil => simp [firstDue] at h
  | cons x r ih =>
    unfold firstDue at h
    split at h
    · cases h
      exact List.mem_cons_self
    · exact List.mem_cons_of_mem _ (ih h)

theorem stepTask_some {c : Chan} {now iv : Nat} {r : Chan × Nat × Nat × Bool} (h : ChanOK c)
    (hr : c.stepTask now iv = some r) :
    ∃ t : Task, c.cmd = some ⟨t.sb, t.st, t.tb, some t.tt⟩ ∧ c.cur = some t.id ∧
      ((now + c.maxFade < t.tt ∧
        r = ({ c with tasks := [{ t with due := now + iv }],
                      lastB := (lineNum t.sb t.st t.tb t.tt (now + c.maxFade), 255 * (t.tt - t.st)),
                      lastF := 1000000 * c.maxFade },
             lineNum t.sb t.st t.tb t.tt (now + c.maxFade), 255 * (t.tt - t.st), false)) ∨
       (t.tt ≤ now + c.maxFade ∧
        r = ({ c with tasks := [], lastB := (t.tb, 255), lastF := 1000000 * (t.tt - now) }, t.tb, 255, true))) := by
  unfold Chan.stepTask at hr
  split at hr
  · cases hr
  next t hfd =>
    have hmem := firstDue_mem hfd
    rcases h with ⟨h, _⟩ | ⟨t0, ht0, hc, hcmd⟩
    · simp [h] at hmem
    · obtain rfl : t = t0 := by simpa [ht0] using hmem
      refine ⟨t, hcmd, hc, ?_⟩
      split at hr <;> cases hr
      next hlt => exact Or.inl ⟨hlt, by simp [ht0]⟩
      next hge => exact Or.inr ⟨Nat.le_of_not_lt hge, by simp [ht0]⟩

theorem stepTask_ok {c : Chan} {now iv : Nat} {r : Chan × Nat × Nat × Bool} (h : ChanOK c)
    (hr : c.stepTask now iv = some r) : ChanOK r.1 := by
  obtain ⟨t, hcmd, hc, ⟨_, rfl⟩ | ⟨_, rfl⟩⟩ := stepTask_some h hr
  · exact Or.inr ⟨_, rfl, hc, hcmd⟩
  · exact Or.inl ⟨rfl, fun m hm => by rw [show c.cmd = some m from hm] at hcmd; cases hcmd; rfl⟩

theorem stepTask_cmd {c : Chan} {now iv : Nat} {r : Chan × Nat × Nat × Bool} (hr : c.stepTask now iv = some r) :
    r.1.cmd = c.cmd := by
  unfold Chan.stepTask at hr
  split at hr
  · cases hr
  · split at hr <;> cases hr <;> rfl

theorem stepTask_maxFade {c : Chan} {now iv : Nat} {r : Chan × Nat × Nat × Bool} (hr : c.stepTask now iv = some r) :
    r.1.maxFade = c.maxFade := by
  unfold Chan.stepTask at hr
  split at hr
  · cases hr
  · split at hr <;> cases hr <;> rfl

/-- operations on one fade channel: a `set_fade` command at `now`, or the loop resuming a stepping task -/
inductive COp
  | set (now : Nat) (m : Cmd)
  | tick (now iv : Nat)

def cstep (c : Chan) : COp → Chan
  | .set now m => (c.setFade now m).1
  | .tick now iv => match c.stepTask now iv with
    | some r => r.1
    | none => c

def crun (c : Chan) : List COp → Chan
  | [] => c
  | o :: r => crun (cstep c o) r

theorem cstep_ok (c : Chan) (o : COp) (h : ChanOK c) : ChanOK (cstep c o) := by
  cases o with
  | set now m => exact setFade_ok c now m h
  | tick now iv =>
    rw [cstep]
    split
    next r hr => exact stepTask_ok h hr
    · exact h

theorem crun_ok (ops : List COp) (c : Chan) (h : ChanOK c) : ChanOK (crun c ops) := by
  induction ops generalizing c with
  | nil => exact h
  | cons o r ih => exact ih _ (cstep_ok c o h)

theorem crun_maxFade (ops : List COp) (c : Chan) : (crun c ops).maxFade = c.maxFade := by
  induction ops generalizing c with
  | nil => rfl
  | cons o r ih =>
    rw [crun, ih]
    cases o with
    | set now m => exact setFade_maxFade c now m
    | tick now iv =>
      rw [cstep]
      split
      next r hr => exact stepTask_maxFade hr
      · rfl

end MpfVerif.Light
