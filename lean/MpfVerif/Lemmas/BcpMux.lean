import MpfVerif.Model.BcpMux
import MpfVerif.Lemmas.BcpReader
namespace MpfVerif.Bcp

theorem framesOf_append (c : Nat) (a b : List (Nat × Frame)) : framesOf c (a ++ b) = framesOf c a ++ framesOf c b := by
  induction a with
  | nil => rfl
  | cons x r ih =>
    obtain ⟨k, f⟩ := x
    by_cases h : k = c <;> simp [framesOf, h, ih]

theorem framesOf_tag (c k : Nat) (fs : List Frame) :
    framesOf c (fs.map (fun f => (k, f))) = if k = c then fs else [] := by
  induction fs with
  | nil => simp [framesOf]
  | cons f r ih =>
    by_cases h : k = c
    · subst h
      simpa [framesOf] using ih
    · simpa [framesOf, h] using ih

/-- what client `c` gets dispatched, and the state of its reader, depend only on `c`'s own byte sequence -/
theorem muxRun_client (m : Mux) (sched : List (Nat × Bytes)) (c : Nat) :
    framesOf c (muxRun m sched).2 = (feed (m c) (bytesOf c sched)).2 ∧
      (muxRun m sched).1 c = (feed (m c) (bytesOf c sched)).1 := by
  induction sched generalizing m with
  | nil => simp [muxRun, bytesOf, framesOf, feed]
  | cons x r ih =>
    obtain ⟨k, chunk⟩ := x
    have := ih (muxFeed m k chunk).1
    by_cases h : k = c
    · subst h
      simp only [muxRun, bytesOf, if_true, framesOf_append]
      rw [feed_append]
      simp only [muxFeed, if_true] at this ⊢
      rw [this.1, this.2, framesOf_tag, if_pos rfl]
      exact ⟨rfl, rfl⟩
    · have hc : (muxFeed m k chunk).1 c = m c := by
        have : ¬ c = k := fun e => h e.symm
        simp [muxFeed, this]
      simp only [muxRun, bytesOf, h, if_false, framesOf_append]
      rw [hc] at this
      simp only [muxFeed] at this ⊢
      rw [framesOf_tag, if_neg h]
      simpa using this

theorem framesOf_dispatch (known : Bytes → Bool) (c : Nat) (log : List (Nat × Frame)) :
    framesOf c (dispatch known log) = (framesOf c log).filter (fun f => known (splitFirst 63 f.1).1) := by
  induction log with
  | nil => rfl
  | cons x r ih =>
    obtain ⟨k, f⟩ := x
    unfold dispatch at ih ⊢
    -- is the frame dispatched, and is it `c`'s
    cases hk : known (splitFirst 63 f.1).1 with
    | true => by_cases h : k = c <;> simp [List.filter, framesOf, hk, h, ih]
    | false => by_cases h : k = c <;> simp [List.filter, framesOf, hk, h, ih]

end MpfVerif.Bcp
