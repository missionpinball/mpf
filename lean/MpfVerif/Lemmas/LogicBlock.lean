import MpfVerif.Model.LogicBlock
/-! Helper definitions and per-step lemmas for C18 (logic blocks): `complete`; events of a step (`step_events`); value ledger
(`ledger_step`); after a completion (`step_post`); clock and hit window (`step_frame`, `WindowOk`); accrual / sequence runs; then `Sys`. -/
namespace MpfVerif.LogicBlock

theorem run_inv (c : Cfg) (I : St → Prop) (hstep : ∀ s op, I s → I (step c s op).1) (s : St) (ops : List Op)
    (h : I s) : I (run c s ops).1 := by
  induction ops generalizing s with
  | nil => exact h
  | cons op r ih => exact ih _ (hstep s op h)

theorem step_loaded (c : Cfg) (s : St) (op : Op) (hl : s.loaded = true) : step c s op = stepLoaded c s op := by
  simp [step, hl]

theorem step_unloaded (c : Cfg) (s : St) (op : Op) (hl : s.loaded = false) : step c s op = stepUnloaded c s op := by
  simp [step, hl]

def isHit : Obs → Bool
  | .hit _ _ => true
  | .hitStep _ => true
  | _ => false

def isComplete : Obs → Bool
  | .complete => true
  | _ => false

def isTimeout : Obs → Bool
  | .timeout => true
  | _ => false

def nHit (l : List Obs) : Nat := l.countP isHit
def nComplete (l : List Obs) : Nat := l.countP isComplete
def nTimeout (l : List Obs) : Nat := l.countP isTimeout

@[simp] theorem nHit_nil : nHit [] = 0 := rfl
@[simp] theorem nComplete_nil : nComplete [] = 0 := rfl
@[simp] theorem nTimeout_nil : nTimeout [] = 0 := rfl
@[simp] theorem nHit_append (a b : List Obs) : nHit (a ++ b) = nHit a + nHit b := List.countP_append
@[simp] theorem nComplete_append (a b : List Obs) : nComplete (a ++ b) = nComplete a + nComplete b := List.countP_append
@[simp] theorem nTimeout_append (a b : List Obs) : nTimeout (a ++ b) = nTimeout a + nTimeout b := List.countP_append

theorem countP_cons_ite {α} (p : α → Bool) (a : α) (b : List α) :
    (a :: b).countP p = (if p a then 1 else 0) + b.countP p := by
  simp [List.countP_cons]; omega

@[simp] theorem nHit_cons (a : Obs) (b : List Obs) : nHit (a :: b) = (if isHit a then 1 else 0) + nHit b :=
  countP_cons_ite _ a b
@[simp] theorem nComplete_cons (a : Obs) (b : List Obs) :
    nComplete (a :: b) = (if isComplete a then 1 else 0) + nComplete b :=
  countP_cons_ite _ a b
@[simp] theorem nTimeout_cons (a : Obs) (b : List Obs) :
    nTimeout (a :: b) = (if isTimeout a then 1 else 0) + nTimeout b :=
  countP_cons_ite _ a b

@[simp] theorem isHit_upd (s : St) : isHit (upd s) = false := rfl
@[simp] theorem isComplete_upd (s : St) : isComplete (upd s) = false := rfl
@[simp] theorem isTimeout_upd (s : St) : isTimeout (upd s) = false := rfl
@[simp] theorem isHit_refused : isHit .refused = false := rfl
@[simp] theorem isComplete_refused : isComplete .refused = false := rfl
@[simp] theorem isTimeout_refused : isTimeout .refused = false := rfl
@[simp] theorem isHit_hit (n : Int) (e : Option (Int × Int)) : isHit (.hit n e) = true := rfl
@[simp] theorem isHit_hitStep (n : Int) : isHit (.hitStep n) = true := rfl
@[simp] theorem isHit_complete : isHit .complete = false := rfl
@[simp] theorem isHit_timeout : isHit .timeout = false := rfl
@[simp] theorem isComplete_hit (n : Int) (e : Option (Int × Int)) : isComplete (.hit n e) = false := rfl
@[simp] theorem isComplete_hitStep (n : Int) : isComplete (.hitStep n) = false := rfl
@[simp] theorem isComplete_complete : isComplete .complete = true := rfl
@[simp] theorem isComplete_timeout : isComplete .timeout = false := rfl
@[simp] theorem isTimeout_hit (n : Int) (e : Option (Int × Int)) : isTimeout (.hit n e) = false := rfl
@[simp] theorem isTimeout_hitStep (n : Int) : isTimeout (.hitStep n) = false := rfl
@[simp] theorem isTimeout_complete : isTimeout .complete = false := rfl
@[simp] theorem isTimeout_timeout : isTimeout .timeout = true := rfl

def Quiet (l : List Obs) : Prop := nHit l = 0 ∧ nComplete l = 0 ∧ nTimeout l = 0

/-! `timerStart` and `startWindow` set one field: with these two equations `reset`, `enable`, `disable`, `restart`,
`fireT` and `load` unfold to record literals. -/

@[simp] theorem timerStart_eq (c : Cfg) (s : St) :
    timerStart c s = { s with timeoutDue := if c.timeout = 0 then s.timeoutDue else some (s.now + c.timeout) } := by
  unfold timerStart; split <;> rfl

@[simp] theorem startWindow_eq (c : Cfg) (s : St) :
    startWindow c s = { s with windowUntil := if c.window = 0 then s.windowUntil else some (s.now + c.window) } := by
  unfold startWindow; split <;> rfl

attribute [local simp] stepLoaded stepUnloaded enable disable reset restart

theorem load_quiet (c : Cfg) (s : St) : Quiet (load c s).2 := by
  cases h : c.startEnabled <;> simp [Quiet, load, h]

theorem load_now (c : Cfg) (s : St) : (load c s).1.now = s.now := by
  cases h : c.startEnabled <;> simp [load, h]

theorem complete_noop (c : Cfg) (s : St) (h : s.completed = true) : complete c s = (s, []) := by
  simp [complete, h]

theorem complete_fst (c : Cfg) (s : St) (h : s.completed = false) : (complete c s).1 =
    { s with completed := !c.resetOnComplete,
             value := if c.resetOnComplete then startVal c else s.value,
             flags := if c.resetOnComplete then startFlags c else s.flags,
             enabled := !c.disableOnComplete && s.enabled,
             timeoutDue := if c.disableOnComplete = false ∧ c.resetOnComplete = true ∧ c.timeout ≠ 0
                           then some (s.now + c.timeout) else none } := by
  cases hr : c.resetOnComplete <;> cases hd : c.disableOnComplete <;>
    simp [complete, afterComplete, h, hr, hd]

/-- what `complete` leaves behind when it runs (block was not completed) -/
structure AfterCompletion (c : Cfg) (s s' : St) : Prop where
  reset_value : c.resetOnComplete = true → s'.value = startVal c ∧ s'.flags = startFlags c ∧ s'.completed = false
  no_reset : c.resetOnComplete = false → s'.completed = true ∧ s'.value = s.value ∧ s'.flags = s.flags
  disabled : c.disableOnComplete = true → s'.enabled = false ∧ s'.timeoutDue = none
  not_disabled : c.disableOnComplete = false → s'.enabled = s.enabled
  timer_restarted : c.disableOnComplete = false → c.resetOnComplete = true → c.timeout ≠ 0 →
    s'.timeoutDue = some (s.now + c.timeout)
  timer_stopped : c.resetOnComplete = false → s'.timeoutDue = none
  window_kept : s'.windowUntil = s.windowUntil
  now_kept : s'.now = s.now
  loaded_kept : s'.loaded = s.loaded

theorem complete_state (c : Cfg) (s : St) (h : s.completed = false) : AfterCompletion c s (complete c s).1 := by
  rw [complete_fst c s h]
  constructor <;> simp +contextual

theorem afterComplete_quiet (c : Cfg) (s : St) : Quiet (afterComplete c s).2 := by
  cases hr : c.resetOnComplete <;> cases hd : c.disableOnComplete <;>
    simp [Quiet, afterComplete, hr, hd]

theorem complete_snd (c : Cfg) (s : St) :
    nHit (complete c s).2 = 0 ∧ nTimeout (complete c s).2 = 0 ∧
    nComplete (complete c s).2 = (if s.completed then 0 else 1) := by
  obtain ⟨h1, h2, h3⟩ := afterComplete_quiet c { s with completed := true, timeoutDue := none }
  unfold complete
  cases s.completed
  · simp [h1, h2, h3]
  · exact ⟨rfl, rfl, rfl⟩

/-! Every hit method ends in `if <goal reached> then complete c s else (s, [])`. -/

@[simp] theorem nHit_ite_complete (c : Cfg) (s : St) (p : Prop) [Decidable p] :
    nHit (if p then complete c s else (s, [])).2 = 0 := by
  split <;> simp [(complete_snd c s).1]

@[simp] theorem nTimeout_ite_complete (c : Cfg) (s : St) (p : Prop) [Decidable p] :
    nTimeout (if p then complete c s else (s, [])).2 = 0 := by
  split <;> simp [(complete_snd c s).2.1]

theorem nComplete_ite_complete (c : Cfg) (s : St) (p : Prop) [Decidable p] :
    nComplete (if p then complete c s else (s, [])).2 = if p ∧ s.completed = false then 1 else 0 := by
  by_cases h : p
  · cases hc : s.completed <;> simp [h, hc, (complete_snd c s).2.2]
  · simp [h]

theorem ite_complete_value (c : Cfg) (s : St) (p : Prop) [Decidable p] :
    (if p then complete c s else (s, [])).1.value =
      if c.resetOnComplete = true ∧ p ∧ s.completed = false then startVal c else s.value := by
  by_cases h : p <;> cases hc : s.completed <;> simp [h, hc, complete_fst, complete_noop]

/-- clock, presence and hit window: the part of the state that only `count`, `clock`, `fireW` and mode stop / start
change -/
def St.frame (s : St) : Nat × Bool × Option Nat := (s.now, s.loaded, s.windowUntil)

@[simp] theorem ite_complete_frame (c : Cfg) (s : St) (p : Prop) [Decidable p] :
    (if p then complete c s else (s, [])).1.frame = s.frame := by
  by_cases h : p <;> cases hc : s.completed <;> simp [h, hc, complete_fst, complete_noop, St.frame]

@[simp] theorem ite_complete_now (c : Cfg) (s : St) (p : Prop) [Decidable p] :
    (if p then complete c s else (s, [])).1.now = s.now :=
  congrArg (·.1) (ite_complete_frame c s p)

@[simp] theorem ite_complete_loaded (c : Cfg) (s : St) (p : Prop) [Decidable p] :
    (if p then complete c s else (s, [])).1.loaded = s.loaded :=
  congrArg (·.2.1) (ite_complete_frame c s p)

@[simp] theorem ite_complete_windowUntil (c : Cfg) (s : St) (p : Prop) [Decidable p] :
    (if p then complete c s else (s, [])).1.windowUntil = s.windowUntil :=
  congrArg (·.2.2) (ite_complete_frame c s p)

/-- a hit on the block is accepted: block present, enabled, and (counter) outside its multiple-hit window -/
def accepted (s : St) : Bool := s.loaded && s.enabled && s.windowUntil.isNone

/-- the op is a hit that the block accepts in this state -/
def acceptedHit (c : Cfg) (s : St) : Op → Bool
  | .count => c.kind = .counter && accepted s
  | .hit k =>
    match c.kind with
    | .accrual => s.loaded && s.enabled && !getFlag s.flags k
    | .sequence => s.loaded && s.enabled && decide ((k : Int) = s.value)
    | .counter => false
  | .advr k => c.kind = .accrual && s.loaded && s.enabled && !getFlag s.flags k
  | _ => false

/-- this op, applied in this state, reaches the block's goal (whether or not the block is already completed) -/
def reaches (c : Cfg) (s : St) : Op → Bool
  | .count => c.kind = .counter && accepted s && goalReached c (s.value + hv c)
  | .add n => c.kind = .counter && s.loaded && goalReached c (s.value + n)
  | .sub n => c.kind = .counter && s.loaded && goalReached c (s.value - n)
  | .set n => c.kind = .counter && s.loaded && goalReached c n
  | .hit k =>
    match c.kind with
    | .accrual => s.loaded && s.enabled && allTrue (if getFlag s.flags k then s.flags else setFlag s.flags k)
    | .sequence => s.loaded && s.enabled && decide ((k : Int) = s.value) && decide ((c.steps : Int) ≤ s.value + 1)
    | .counter => false
  | .advr k => c.kind = .accrual && s.loaded && s.enabled && !getFlag s.flags k && allTrue (setFlag s.flags k)
  | _ => false

theorem count_events (c : Cfg) (s : St) :
    nHit (count c s).2 = (if s.enabled && s.windowUntil.isNone then 1 else 0) ∧
    nComplete (count c s).2 =
      (if s.enabled && s.windowUntil.isNone && goalReached c (s.value + hv c) && !s.completed then 1 else 0) := by
  cases he : s.enabled <;> cases hw : s.windowUntil <;> simp [count, he, hw, nComplete_ite_complete]

theorem adjust_events (c : Cfg) (s : St) (v : Int) : nHit (adjust c s v).2 = 0 ∧
    nComplete (adjust c s v).2 = (if goalReached c v && !s.completed then 1 else 0) := by
  simp [adjust, nComplete_ite_complete]

theorem accrualHit_events (c : Cfg) (s : St) (k : Nat) :
    nHit (accrualHit c s k).2 = (if s.enabled && !getFlag s.flags k then 1 else 0) ∧
    nComplete (accrualHit c s k).2 =
      (if s.enabled && allTrue (if getFlag s.flags k then s.flags else setFlag s.flags k) && !s.completed then 1 else 0) := by
  cases he : s.enabled <;> cases hg : getFlag s.flags k <;> simp [accrualHit, he, hg, nComplete_ite_complete]

theorem sequenceHit_events (c : Cfg) (s : St) (k : Nat) :
    nHit (sequenceHit c s k).2 = (if s.enabled && decide ((k : Int) = s.value) then 1 else 0) ∧
    nComplete (sequenceHit c s k).2 =
      (if s.enabled && decide ((k : Int) = s.value) && decide ((c.steps : Int) ≤ s.value + 1) && !s.completed
       then 1 else 0) := by
  cases he : s.enabled <;> by_cases hv : (k : Int) = s.value <;> simp [sequenceHit, he, hv, nComplete_ite_complete]

theorem step_events (c : Cfg) (s : St) (op : Op) :
    nHit (step c s op).2 = (if acceptedHit c s op then 1 else 0) ∧
    nComplete (step c s op).2 = (if reaches c s op && !s.completed then 1 else 0) := by
  -- with the records spelt out, `cases` on presence and kind makes `step`, `acceptedHit` and `reaches` compute
  obtain ⟨now, loaded, enabled, completed, value, flags, windowUntil, timeoutDue⟩ := s
  obtain ⟨kind, start, interval, down, goal, roc, doc, window, timeout, steps, startEnabled⟩ := c
  cases loaded
  · cases op with
    | load => exact ⟨(load_quiet _ _).1, (load_quiet _ _).2.1⟩
    | count | hit k | advr k | add n | sub n | set n => cases kind <;> exact ⟨rfl, rfl⟩
    | _ => exact ⟨rfl, rfl⟩
  · cases op with
    | count =>
      cases kind with
      | counter => exact count_events _ _
      | _ => exact ⟨rfl, rfl⟩
    | hit k =>
      cases kind
      · exact ⟨rfl, rfl⟩
      · exact accrualHit_events _ _ k
      · exact sequenceHit_events _ _ k
    | advr k =>
      cases kind with
      | accrual =>
        cases hg : getFlag flags k <;> cases enabled <;>
          simp [step, acceptedHit, reaches, accrualHit, hg, nComplete_ite_complete]
      | _ => exact ⟨rfl, rfl⟩
    | add n | sub n | set n =>
      cases kind with
      | counter => exact adjust_events _ _ _
      | _ => exact ⟨rfl, rfl⟩
    | clock => show nHit (clock _).2 = 0 ∧ nComplete (clock _).2 = 0; unfold clock; split <;> exact ⟨rfl, rfl⟩
    | fireW => show nHit (fireW _).2 = 0 ∧ nComplete (fireW _).2 = 0; unfold fireW; split <;> exact ⟨rfl, rfl⟩
    | fireT => show nHit (fireT _ _).2 = 0 ∧ nComplete (fireT _ _).2 = 0; unfold fireT; split <;> exact ⟨rfl, rfl⟩
    | enable | disable | reset | restart | unload | load => exact ⟨rfl, rfl⟩

theorem count_rejected (c : Cfg) (s : St) (h : accepted s = false) : step c s .count = (s, []) := by
  cases hl : s.loaded
  · rw [step_unloaded c s _ hl]; rfl
  · rw [step_loaded c s _ hl]
    simp only [stepLoaded]
    cases c.kind with
    | counter =>
      -- a present block that does not accept is disabled or inside its window: the two guards of `count`
      unfold count
      cases he : s.enabled
      · rfl
      · cases hw : s.windowUntil
        · simp [accepted, hl, he, hw] at h
        · rfl
    | _ => rfl

/-- start value and accepted hits since the last reset (`base` also absorbs explicit add / subtract / jump) -/
structure Ledger where
  base : Int
  hits : Nat
  deriving DecidableEq, Repr

def Ledger.value (c : Cfg) (l : Ledger) : Int := l.base + hv c * (l.hits : Int)

def isResetOp : Op → Bool
  | .reset => true
  | .restart => true
  | _ => false

/-- Bookkeeping from what can be seen from outside: the op and the events the step posted.  A reset is visible as the
reset / restart op, a timeout event, a completion event of a block with `reset_on_complete`, or a mode start. -/
def ledgerStep (c : Cfg) (l : Ledger) (op : Op) (obs : List Obs) : Ledger :=
  if isResetOp op || nTimeout obs != 0 || (c.resetOnComplete && nComplete obs != 0) then ⟨c.start, 0⟩ else
  match op with
  | .count => ⟨l.base, l.hits + nHit obs⟩
  | .add n => ⟨l.base + n, l.hits⟩
  | .sub n => ⟨l.base - n, l.hits⟩
  | .set n => ⟨n, 0⟩
  | .load => if obs.isEmpty then l else ⟨c.start, 0⟩
  | _ => l

def ledgerRun (c : Cfg) : Ledger → List (Op × List Obs) → Ledger
  | l, [] => l
  | l, x :: r => ledgerRun c (ledgerStep c l x.1 x.2) r

attribute [local simp] ledgerStep isResetOp

theorem ledgerStep_base (c : Cfg) (l : Ledger) (op : Op) (obs : List Obs) (hb : l.base = c.start)
    (hno : ∀ n, op ≠ .add n ∧ op ≠ .sub n ∧ op ≠ .set n) : (ledgerStep c l op obs).base = c.start := by
  unfold ledgerStep
  split
  · rfl
  · cases op with
    | add n => exact absurd rfl (hno n).1
    | sub n => exact absurd rfl (hno n).2.1
    | set n => exact absurd rfl (hno n).2.2
    | load => simp only; split; exact hb; rfl
    | _ => exact hb

theorem Ledger.value_zero (c : Cfg) (b : Int) : Ledger.value c ⟨b, 0⟩ = b := by simp [Ledger.value]
theorem Ledger.value_add (c : Cfg) (l : Ledger) (n : Int) : Ledger.value c ⟨l.base + n, l.hits⟩ = l.value c + n := by
  simp only [Ledger.value]; omega
theorem Ledger.value_sub (c : Cfg) (l : Ledger) (n : Int) : Ledger.value c ⟨l.base - n, l.hits⟩ = l.value c - n := by
  simp only [Ledger.value]; omega
theorem Ledger.value_hit (c : Cfg) (l : Ledger) : Ledger.value c ⟨l.base, l.hits + 1⟩ = l.value c + hv c := by
  simp [Ledger.value, Int.mul_add]; omega

/-- value after the step and value of the stepped ledger are both `if <reset visible> then start else old ± delta`, with the same
test (`ite_complete_value`, `nComplete_ite_complete`) -/
theorem ledger_step (c : Cfg) (s : St) (l : Ledger) (op : Op) (hk : c.kind = .counter)
    (inv : s.loaded = true → s.value = l.value c) (hl' : (step c s op).1.loaded = true) :
    (step c s op).1.value = (ledgerStep c l op (step c s op).2).value c := by
  have hs : startVal c = c.start := by simp [startVal, hk]
  cases hl : s.loaded
  · rw [step_unloaded c s op hl] at hl' ⊢
    cases op with
    | load => cases h : c.startEnabled <;> simp [load, h, Ledger.value_zero, hs]
    | _ => cases hl.symm.trans hl'
  · have iv := inv hl
    rw [step_loaded c s op hl] at hl' ⊢
    cases op with
    | count =>
      cases he : s.enabled <;> cases hw : s.windowUntil <;>
        simp [hk, count, he, hw, ite_complete_value, nComplete_ite_complete, hs, iv, apply_ite (Ledger.value c),
          Ledger.value_zero, Ledger.value_hit]
    | add n | sub n | set n =>
      simp [hk, adjust, ite_complete_value, nComplete_ite_complete, hs, iv, apply_ite (Ledger.value c),
        Ledger.value_zero, Ledger.value_add, Ledger.value_sub]
    | hit k | advr k | load | disable => simp [hk, iv]
    | enable => simp [iv]
    | reset | restart => simp [Ledger.value_zero, hs]
    | clock => simp only [stepLoaded, clock]; split <;> simp [iv]
    | fireW => simp only [stepLoaded, fireW]; split <;> simp [iv]
    | fireT => simp only [stepLoaded, fireT]; split <;> simp [iv, Ledger.value_zero, hs]
    | unload => cases hl'

theorem ledger_run (c : Cfg) (hk : c.kind = .counter) (ops : List Op) (s : St) (l : Ledger)
    (inv : s.loaded = true → s.value = l.value c) (hl : (run c s ops).1.loaded = true) :
    (run c s ops).1.value = (ledgerRun c l (run c s ops).2).value c := by
  induction ops generalizing s l with
  | nil => exact inv hl
  | cons op r ih => exact ih _ _ (fun h => ledger_step c s l op hk inv h) hl

/-- the state right after a step that completed the block, relative to the state `s` before the step
(`AfterCompletion` is relative to the intermediate state `complete` ran on) -/
structure PostCompletion (c : Cfg) (s s' : St) : Prop where
  reset_done : c.resetOnComplete = true → s'.completed = false ∧ s'.value = startVal c ∧ s'.flags = startFlags c
  stays_completed : c.resetOnComplete = false → s'.completed = true ∧ s'.timeoutDue = none
  disabled : c.disableOnComplete = true → s'.enabled = false ∧ s'.timeoutDue = none
  stays_enabled : c.disableOnComplete = false → s'.enabled = s.enabled
  timer_restarted : c.disableOnComplete = false → c.resetOnComplete = true → c.timeout ≠ 0 →
    s'.timeoutDue = some (s.now + c.timeout)

theorem post_complete (c : Cfg) (s s1 : St) (hc : s1.completed = false) (he : s1.enabled = s.enabled)
    (hn : s1.now = s.now) : PostCompletion c s (complete c s1).1 := by
  have h := complete_state c s1 hc
  exact ⟨fun hr => ⟨(h.reset_value hr).2.2, (h.reset_value hr).1, (h.reset_value hr).2.1⟩,
    fun hr => ⟨(h.no_reset hr).1, h.timer_stopped hr⟩, h.disabled, fun hd => he ▸ h.not_disabled hd,
    fun hd hr ht => hn ▸ h.timer_restarted hd hr ht⟩

theorem post_startWindow (c : Cfg) (s s' : St) (h : PostCompletion c s s') : PostCompletion c s (startWindow c s') := by
  rw [startWindow_eq]; exact ⟨h.reset_done, h.stays_completed, h.disabled, h.stays_enabled, h.timer_restarted⟩

theorem step_post (c : Cfg) (s : St) (op : Op) (hr : reaches c s op = true) (hc : s.completed = false) :
    PostCompletion c s (step c s op).1 := by
  cases op with
  | count =>
    simp only [reaches, accepted, Bool.and_eq_true, decide_eq_true_eq, Option.isNone_iff_eq_none] at hr
    obtain ⟨⟨hk, ⟨hl, he⟩, hw⟩, hg⟩ := hr
    simp only [step, stepLoaded, hl, hk, count, he, hw, hg]
    simp only [Bool.true_eq_false, if_false, Option.isSome_none, if_true]
    exact post_startWindow c s _ (post_complete c s _ hc he.symm rfl)
  | add n | sub n | set n =>
    simp only [reaches, Bool.and_eq_true, decide_eq_true_eq] at hr
    obtain ⟨⟨hk, hl⟩, hg⟩ := hr
    simp only [step, stepLoaded, hl, hk, adjust, hg]
    simp only [Bool.true_eq_false, if_false, if_true]
    exact post_complete c s _ hc rfl rfl
  | hit k =>
    cases hk : c.kind
    · simp [reaches, hk] at hr
    · simp only [reaches, hk, Bool.and_eq_true] at hr
      obtain ⟨⟨hl, he⟩, ha⟩ := hr
      simp only [step, stepLoaded, hl, hk, accrualHit, he]
      simp only [Bool.true_eq_false, if_false]
      cases hg : getFlag s.flags k
      · simp only [hg, Bool.false_eq_true, if_false] at ha ⊢
        simp only [ha, if_true]
        exact post_complete c s _ hc he.symm rfl
      · simp only [hg, if_true] at ha ⊢
        simp only [ha, if_true]
        exact post_complete c s _ hc rfl rfl
    · simp only [reaches, hk, Bool.and_eq_true, decide_eq_true_eq] at hr
      obtain ⟨⟨⟨hl, he⟩, hv⟩, hs⟩ := hr
      simp only [step, stepLoaded, hl, hk, sequenceHit, he, hv, hs]
      simp only [Bool.true_eq_false, if_false, ne_eq, not_true_eq_false, decide_true, if_true]
      exact post_complete c s _ hc he.symm rfl
  | advr k =>
    simp only [reaches, Bool.and_eq_true, decide_eq_true_eq, Bool.not_eq_true'] at hr
    obtain ⟨⟨⟨⟨hk, hl⟩, he⟩, hg⟩, ha⟩ := hr
    simp only [step, stepLoaded, hl, hk, accrualHit, he, hg]
    simp only [Bool.true_eq_false, Bool.false_eq_true, if_false, ha, if_true]
    exact post_complete c s _ hc he.symm rfl
  | _ => cases hr

/-- a pending window deadline is not in the past, at most `multiple_hit_window` away (and only a present block has one) -/
def WindowOk (c : Cfg) (s : St) : Prop :=
  (s.loaded = false → s.windowUntil = none) ∧ ∀ d, s.windowUntil = some d → s.now ≤ d ∧ d ≤ s.now + c.window

theorem windowOk_of_frame (c : Cfg) (s s' : St) (hf : s'.frame = s.frame) (h : WindowOk c s) : WindowOk c s' := by
  simp only [St.frame, Prod.mk.injEq] at hf
  unfold WindowOk
  rw [hf.1, hf.2.1, hf.2.2]; exact h

def keepsFrame : Op → Bool
  | .count | .clock | .fireW | .unload | .load => false
  | _ => true

theorem timerStart_frame (c : Cfg) (s : St) : (timerStart c s).frame = s.frame := by
  rw [timerStart_eq]; rfl

theorem accrualHit_frame (c : Cfg) (s : St) (k : Nat) : (accrualHit c s k).1.frame = s.frame := by
  unfold accrualHit
  cases s.enabled
  · rfl
  · exact (ite_complete_frame c _ _).trans (by cases getFlag s.flags k <;> rfl)

theorem sequenceHit_frame (c : Cfg) (s : St) (k : Nat) : (sequenceHit c s k).1.frame = s.frame := by
  unfold sequenceHit
  cases s.enabled
  · rfl
  · by_cases hv : (k : Int) ≠ s.value
    · rw [if_pos hv]; rfl
    · rw [if_neg hv]; exact ite_complete_frame c _ _

theorem step_frame (c : Cfg) (s : St) (op : Op) (h : keepsFrame op = true) : (step c s op).1.frame = s.frame := by
  cases hl : s.loaded
  · rw [step_unloaded c s op hl]
    cases op with
    | count | clock | fireW | unload | load => cases h
    | _ => rfl
  · rw [step_loaded c s op hl]
    cases op with
    | count | clock | fireW | unload | load => cases h
    | hit k =>
      simp only [stepLoaded]
      cases c.kind with
      | counter => rfl
      | accrual => exact accrualHit_frame c s k
      | sequence => exact sequenceHit_frame c s k
    | advr k =>
      simp only [stepLoaded]
      cases c.kind with
      | accrual =>
        cases getFlag s.flags k
        · exact accrualHit_frame c s k
        · rfl
      | _ => rfl
    | add n | sub n | set n =>
      simp only [stepLoaded]
      cases c.kind with
      | counter => exact ite_complete_frame c _ _
      | _ => rfl
    | fireT =>
      simp only [stepLoaded, fireT]
      split
      · exact timerStart_frame c _
      · rfl
    | enable | reset => exact timerStart_frame c _
    | restart => exact (timerStart_frame c _).trans (timerStart_frame c _)
    | disable => rfl

theorem count_frame (c : Cfg) (s : St) : (count c s).1.frame = s.frame ∨
    (s.windowUntil = none ∧ (count c s).1.frame = (s.now, s.loaded, some (s.now + c.window))) := by
  cases he : s.enabled <;> cases hw : s.windowUntil <;> simp [count, he, hw, St.frame]
  by_cases h0 : c.window = 0 <;> simp [h0]

theorem step_now (c : Cfg) (s : St) (op : Op) :
    (step c s op).1.now = s.now ∨ op = .clock ∧ (step c s op).1.now = s.now + 1 := by
  by_cases hk : keepsFrame op = true
  · exact .inl (congrArg (·.1) (step_frame c s op hk))
  · cases hl : s.loaded
    · rw [step_unloaded c s op hl]
      cases op with
      | clock => exact .inr ⟨rfl, rfl⟩
      | load => exact .inl (load_now c s)
      | _ => exact .inl rfl
    · rw [step_loaded c s op hl]
      cases op with
      | clock =>
        show (clock s).1.now = s.now ∨ _ ∧ (clock s).1.now = s.now + 1
        unfold clock
        split
        · exact .inl rfl
        · exact .inr ⟨rfl, rfl⟩
      | count =>
        simp only [stepLoaded]
        cases c.kind with
        | counter => rcases count_frame c s with f | ⟨_, f⟩ <;> exact .inl (congrArg (·.1) f)
        | _ => exact .inl rfl
      | fireW => simp only [stepLoaded, fireW]; split <;> exact .inl rfl
      | unload | load => exact .inl rfl
      | _ => exact absurd rfl hk

theorem step_window (c : Cfg) (s : St) (op : Op) (h : WindowOk c s) : WindowOk c (step c s op).1 := by
  by_cases hk : keepsFrame op = true
  · exact windowOk_of_frame c s _ (step_frame c s op hk) h
  · cases hl : s.loaded
    · rw [step_unloaded c s op hl]
      have hn := h.1 hl
      cases op with
      | clock => simp [WindowOk, hn]
      | load => cases hs : c.startEnabled <;> simp [load, hs, WindowOk]
      | _ => exact h
    · rw [step_loaded c s op hl]
      cases op with
      | count =>
        simp only [stepLoaded]
        cases c.kind
        · rcases count_frame c s with f | ⟨_, f⟩
          · exact windowOk_of_frame c s _ f h
          · simp only [St.frame, Prod.mk.injEq] at f
            unfold WindowOk
            rw [f.1, f.2.1, f.2.2, hl]
            simp
        · exact h
        · exact h
      | clock =>
        simp only [stepLoaded, clock]
        split
        · exact h
        · rename_i hg
          refine ⟨fun hf => absurd (hl ▸ hf) (by simp), fun d hd => ?_⟩
          have := h.2 d hd
          have : d ≠ s.now := fun e => hg (Or.inl (e ▸ hd))
          show s.now + 1 ≤ d ∧ d ≤ s.now + 1 + c.window
          omega
      | fireW =>
        simp only [stepLoaded, fireW]
        split
        · exact ⟨fun _ => rfl, fun d hd => by simp at hd⟩
        · exact h
      | unload => exact ⟨fun _ => rfl, fun d hd => by simp [unload] at hd⟩
      | load => exact h
      | _ => exact absurd rfl hk

theorem run_window (c : Cfg) (s : St) (ops : List Op) (h : WindowOk c s) : WindowOk c (run c s ops).1 :=
  run_inv c _ (step_window c) s ops h

/-- at its deadline the window blocks the clock until `stop_ignoring_hits` has run, which reopens it -/
theorem window_deadline (c : Cfg) (s : St) (hl : s.loaded = true) (hw : s.windowUntil = some s.now) :
    step c s .clock = (s, [Obs.refused]) ∧ (step c s .fireW).1.windowUntil = none := by
  rw [step_loaded c s _ hl, step_loaded c s _ hl]
  simp [clock, fireW, hw]

theorem ite_complete_flags (c : Cfg) (s : St) (p : Prop) [Decidable p] :
    (if p then complete c s else (s, [])).1.flags =
      if c.resetOnComplete = true ∧ p ∧ s.completed = false then startFlags c else s.flags := by
  by_cases h : p <;> cases hc : s.completed <;> simp [h, hc, complete_fst, complete_noop]

theorem counter_step_flags (c : Cfg) (s : St) (op : Op) (hk : c.kind = .counter) (hf : s.flags = []) :
    (step c s op).1.flags = [] := by
  have hs : startFlags c = [] := by simp [startFlags, hk]
  cases hl : s.loaded
  · rw [step_unloaded c s op hl]
    cases op with
    | load => cases h : c.startEnabled <;> simp [load, h, hs]
    | _ => exact hf
  · rw [step_loaded c s op hl]
    cases op with
    | count =>
      cases he : s.enabled <;> cases hw : s.windowUntil <;>
        simp [hk, count, he, hw, ite_complete_flags, hs, hf]
    | add n | sub n | set n => simp [hk, adjust, ite_complete_flags, hs, hf]
    | clock => simp only [stepLoaded, clock]; split <;> exact hf
    | fireW => simp only [stepLoaded, fireW]; split <;> exact hf
    | fireT => simp only [stepLoaded, fireT]; split <;> simp [hs, hf]
    | enable | disable | reset | restart | unload | hit k | advr k | load =>
      simp [hk, unload, hs, hf]

/-- the flags after hits on the steps `ks` (no completion in between) -/
def marks (f : List Bool) (ks : List Nat) : List Bool := ks.foldl setFlag f

theorem setFlag_of_get (f : List Bool) (k : Nat) (h : getFlag f k = true) : setFlag f k = f := by
  induction f generalizing k with
  | nil => rfl
  | cons b r ih => cases k <;> simp_all [getFlag, setFlag]

theorem setFlag_comm (f : List Bool) (a b : Nat) : setFlag (setFlag f a) b = setFlag (setFlag f b) a := by
  induction f generalizing a b with
  | nil => rfl
  | cons x r ih => cases a <;> cases b <;> simp [setFlag, ih]

theorem allTrue_setFlag (f : List Bool) (k : Nat) (h : allTrue f = true) : allTrue (setFlag f k) = true := by
  induction f generalizing k with
  | nil => rfl
  | cons b r ih => cases k <;> simp_all [allTrue, setFlag]

theorem allTrue_marks (f : List Bool) (ks : List Nat) (h : allTrue f = true) : allTrue (marks f ks) = true := by
  induction ks generalizing f with
  | nil => exact h
  | cons k r ih => exact ih _ (allTrue_setFlag f k h)

theorem marks_setFlag (f : List Bool) (ks : List Nat) (a : Nat) : marks (setFlag f a) ks = setFlag (marks f ks) a := by
  induction ks generalizing f with
  | nil => rfl
  | cons k r ih => simp only [marks, List.foldl_cons] at ih ⊢; rw [setFlag_comm, ih]

theorem marks_perm (f : List Bool) (ks ks' : List Nat) (h : ks.Perm ks') : marks f ks = marks f ks' := by
  induction h generalizing f with
  | nil => rfl
  | cons x _ ih => exact ih (setFlag f x)
  | swap x y l => simp only [marks, List.foldl_cons]; rw [setFlag_comm]
  | trans _ _ ih1 ih2 => rw [ih1, ih2]

theorem accrual_step (c : Cfg) (s : St) (k : Nat) (hk : c.kind = .accrual) (hl : s.loaded = true)
    (he : s.enabled = true) (hn : allTrue (setFlag s.flags k) = false) :
    (step c s (.hit k)).1 = { s with flags := setFlag s.flags k } ∧ nComplete (step c s (.hit k)).2 = 0 := by
  rw [step_loaded c s _ hl]
  cases hg : getFlag s.flags k
  · simp [hk, accrualHit, he, hg, hn]
  · rw [setFlag_of_get s.flags k hg] at hn ⊢
    show _ = s ∧ _
    simp [hk, accrualHit, he, hg, hn]

theorem accrual_run (c : Cfg) (s : St) (ks : List Nat) (hk : c.kind = .accrual) (hl : s.loaded = true)
    (he : s.enabled = true) (hn : allTrue (marks s.flags ks) = false) :
    (run c s (ks.map Op.hit)).1 = { s with flags := marks s.flags ks } ∧
    ((run c s (ks.map Op.hit)).2.map (fun x => nComplete x.2)).sum = 0 := by
  induction ks generalizing s with
  | nil => exact ⟨rfl, rfl⟩
  | cons k r ih =>
    -- once all flags are set they stay set, so this hit does not set the last one
    have h1 : allTrue (setFlag s.flags k) = false := by
      cases h : allTrue (setFlag s.flags k)
      · rfl
      · cases (allTrue_marks _ r h).symm.trans hn
    have st := accrual_step c s k hk hl he h1
    have := ih { s with flags := setFlag s.flags k } hl he hn
    simp only [List.map_cons, run, List.sum_cons, st.1, st.2]
    exact ⟨this.1, by rw [this.2]⟩

/-- the step a sequence waits for after the hits `ks`, starting at step `v` (no completion in between) -/
def seqAdv (v : Int) : List Nat → Int
  | [] => v
  | k :: r => if (k : Int) = v then seqAdv (v + 1) r else seqAdv v r

theorem seqAdv_ge (v : Int) (ks : List Nat) : v ≤ seqAdv v ks := by
  induction ks generalizing v with
  | nil => exact Int.le_refl v
  | cons k r ih =>
    simp only [seqAdv]
    split
    · exact Int.le_trans (by omega) (ih (v + 1))
    · exact ih v

theorem sequence_wrong_step (c : Cfg) (s : St) (k : Nat) (hk : c.kind = .sequence) (hv : (k : Int) ≠ s.value) :
    step c s (.hit k) = (s, []) := by
  cases hl : s.loaded
  · rw [step_unloaded c s _ hl]; rfl
  · rw [step_loaded c s _ hl]
    cases he : s.enabled <;> simp [hk, sequenceHit, he, hv]

theorem sequence_right_step (c : Cfg) (s : St) (k : Nat) (hk : c.kind = .sequence) (hl : s.loaded = true)
    (he : s.enabled = true) (hv : (k : Int) = s.value) (hn : s.value + 1 < c.steps) :
    (step c s (.hit k)).1 = { s with value := s.value + 1 } ∧ nComplete (step c s (.hit k)).2 = 0 := by
  rw [step_loaded c s _ hl]
  have : ¬ ((c.steps : Int) ≤ s.value + 1) := by omega
  simp [hk, sequenceHit, he, hv, this]

theorem sequence_run (c : Cfg) (s : St) (ks : List Nat) (hk : c.kind = .sequence) (hl : s.loaded = true)
    (he : s.enabled = true) (hn : seqAdv s.value ks < c.steps) :
    (run c s (ks.map Op.hit)).1 = { s with value := seqAdv s.value ks } ∧
    ((run c s (ks.map Op.hit)).2.map (fun x => nComplete x.2)).sum = 0 := by
  induction ks generalizing s with
  | nil => exact ⟨rfl, rfl⟩
  | cons k r ih =>
    simp only [List.map_cons, run, List.sum_cons, seqAdv] at hn ⊢
    by_cases hv : (k : Int) = s.value
    · rw [if_pos hv] at hn ⊢
      have st := sequence_right_step c s k hk hl he hv (by have := seqAdv_ge (s.value + 1) r; omega)
      have := ih { s with value := s.value + 1 } hl he hn
      rw [st.1, st.2, this.2]; exact ⟨this.1, rfl⟩
    · rw [if_neg hv] at hn ⊢
      rw [sequence_wrong_step c s k hk hv]
      exact ⟨(ih s hl he hn).1, by rw [(ih s hl he hn).2]; rfl⟩

/-! ## the block in its environment (`Sys`, `xstep`) -/

theorem xrun_inv (I : Sys → Prop) (hstep : ∀ y x, I y → I (xstep y x).1) (y : Sys) (ops : List XOp) (h : I y) :
    I (xrun y ops).1 := by
  induction ops generalizing y with
  | nil => exact h
  | cons op r ih => exact ih _ (hstep y op h)

/-- the block method an extended op runs now (`none`: it does not run one - environment change, mode start / stop,
a refused clock tick or a delayed call that is not due) -/
def xcore (y : Sys) : XOp → Option Op
  | .core .unload => none
  | .core .load => none
  | .core .clock => if dueNow y.s.now y.pending then none else some .clock
  | .core o => some o
  | .fireD a k => (takeDue y.s.now a y.pending).map (fun _ => actOp a k)
  | _ => none

/-- the op is a hit - direct or a delayed call running now - that the block accepts -/
def acceptedX (y : Sys) (x : XOp) : Bool :=
  match xcore y x with | some o => acceptedHit y.c y.s o | none => false

/-- the op reaches the goal, as the completion template evaluates now, while the block is not completed -/
def reachesX (y : Sys) (x : XOp) : Bool :=
  match xcore y x with | some o => reaches y.c y.s o && !y.s.completed | none => false

theorem takeDue_sub (now : Nat) (a : Act) (l rest : List (Nat × Act)) (h : takeDue now a l = some rest) :
    (∀ x ∈ rest, x ∈ l) ∧ rest.length + 1 = l.length := by
  induction l generalizing rest with
  | nil => cases h
  | cons x r ih =>
    simp only [takeDue] at h
    split at h
    · cases h; exact ⟨fun z hz => List.mem_cons_of_mem _ hz, rfl⟩
    · cases hr : takeDue now a r <;> simp only [hr, Option.map_none, Option.map_some, reduceCtorEq, Option.some.injEq] at h
      subst h
      have := ih _ hr
      exact ⟨fun z hz => (List.mem_cons.mp hz).elim (· ▸ List.mem_cons_self) fun e => List.mem_cons_of_mem _ (this.1 z e),
        by simp [this.2]⟩

/-- a core op runs its block method, except: mode stop / start, and the clock while a delayed call is due -/
theorem xcore_core (y : Sys) (o : Op) :
    (o = .unload ∨ o = .load ∨ (o = .clock ∧ dueNow y.s.now y.pending = true)) ∧ xcore y (.core o) = none ∨
    (o ≠ .unload ∧ o ≠ .load ∧ (o = .clock → dueNow y.s.now y.pending = false)) ∧ xcore y (.core o) = some o := by
  by_cases hu : o = .unload
  · exact .inl ⟨.inl hu, hu ▸ rfl⟩
  by_cases hl : o = .load
  · exact .inl ⟨.inr (.inl hl), hl ▸ rfl⟩
  by_cases hc : o = .clock
  · subst hc
    cases hd : dueNow y.s.now y.pending
    · exact .inr ⟨⟨hu, hl, fun _ => rfl⟩, by simp [xcore, hd]⟩
    · exact .inl ⟨.inr (.inr ⟨rfl, rfl⟩), by simp [xcore, hd]⟩
  · exact .inr ⟨⟨hu, hl, fun e => absurd e hc⟩, by simp [xcore]⟩

theorem xcore_core_none (y : Sys) (o : Op) (h : xcore y (.core o) = none) :
    o = .unload ∨ o = .load ∨ (o = .clock ∧ dueNow y.s.now y.pending = true) := by
  rcases xcore_core y o with ⟨h3, _⟩ | ⟨_, hs⟩
  · exact h3
  · rw [hs] at h; cases h

theorem xcore_fireD_none (y : Sys) (a : Act) (k : Nat) (h : xcore y (.fireD a k) = none) :
    takeDue y.s.now a y.pending = none := by
  cases ht : takeDue y.s.now a y.pending
  · rfl
  · simp [xcore, ht] at h

theorem xstep_runs (y : Sys) (x : XOp) (o : Op) (h : xcore y x = some o) :
    xstep y x = ({ y with s := (step y.c y.s o).1, pending := (xstep y x).1.pending }, (step y.c y.s o).2) ∧
    (∀ z ∈ (xstep y x).1.pending, z ∈ y.pending) ∧ (o = .clock → dueNow y.s.now y.pending = false) := by
  cases x with
  | core o' =>
    rcases xcore_core y o' with ⟨_, hn⟩ | ⟨⟨hu, hl, hc⟩, hs⟩
    · rw [hn] at h; cases h
    · rw [hs] at h; cases h
      have e : xstep y (.core o) = ({ y with s := (step y.c y.s o).1 }, (step y.c y.s o).2) := by
        by_cases hk : o = .clock
        · subst hk; simp [xstep, hc rfl]
        · simp [xstep]
      rw [e]; exact ⟨rfl, fun _ hz => hz, hc⟩
  | fireD a k =>
    cases ht : takeDue y.s.now a y.pending <;> simp only [xcore, ht] at h <;> cases h
    exact ⟨by simp [xstep, ht], by simpa [xstep, ht] using (takeDue_sub _ _ _ _ ht).1, by cases a <;> nofun⟩
  | _ => cases h

theorem startMode_quiet (y : Sys) (p : Nat) : Quiet (startMode y p).2 := by
  unfold startMode
  split
  · exact ⟨rfl, rfl, rfl⟩
  · split
    · exact ⟨rfl, rfl, rfl⟩
    · exact load_quiet _ _

theorem xstep_quiet (y : Sys) (x : XOp) (h : xcore y x = none) : Quiet (xstep y x).2 := by
  cases x with
  | core o =>
    rcases xcore_core_none y o h with rfl | rfl | ⟨rfl, hd⟩
    · exact ⟨rfl, rfl, rfl⟩
    · exact startMode_quiet y y.cur
    · simp only [xstep, hd]; exact ⟨rfl, rfl, rfl⟩
  | dpost a d => simp only [xstep]; split <;> exact ⟨rfl, rfl, rfl⟩
  | fireD a k => simp only [xstep, xcore_fireD_none y a k h]; exact ⟨rfl, rfl, rfl⟩
  | startMode p => exact startMode_quiet y p
  | newGame => simp only [xstep]; split <;> exact ⟨rfl, rfl, rfl⟩
  | _ => exact ⟨rfl, rfl, rfl⟩

theorem xstep_events (y : Sys) (x : XOp) :
    nHit (xstep y x).2 = (if acceptedX y x then 1 else 0) ∧ nComplete (xstep y x).2 = (if reachesX y x then 1 else 0) := by
  unfold acceptedX reachesX
  cases hx : xcore y x with
  | none => exact ⟨(xstep_quiet y x hx).1, (xstep_quiet y x hx).2.1⟩
  | some o => rw [(xstep_runs y x o hx).1]; exact step_events y.c y.s o

/-- the ledger of a counter seen from outside, plus what the `starting_count` template evaluates to now -/
structure XLedger where
  l : Ledger
  start : Int
  deriving DecidableEq, Repr

/-- the value the last `updated` event of a mode start announces -/
def announced (obs : List Obs) : Option Int :=
  match obs.getLast? with
  | some (.updated v _ _) => some v
  | _ => none

def restartLedger (xl : XLedger) (obs : List Obs) : XLedger :=
  match announced obs with
  | some v => ⟨⟨v, 0⟩, xl.start⟩
  | none => xl

/-- Bookkeeping from outside over the extended ops: a changed start variable is remembered and becomes the base at
the next reset; a mode start (fresh block or the player's stored state) restarts the ledger at the value it
announces; a delayed call that runs counts like the direct event; a refused one does not count. -/
def xledgerStep (c0 : Cfg) (xl : XLedger) (x : XOp) (obs : List Obs) : XLedger :=
  match x with
  | .setStart n => { xl with start := n }
  | .core .load => restartLedger xl obs
  | .startMode _ => restartLedger xl obs
  | .core .unload => xl
  | .core o => ⟨ledgerStep { c0 with start := xl.start } xl.l o obs, xl.start⟩
  | .fireD a k =>
    if obs.head? = some Obs.refused then xl
    else ⟨ledgerStep { c0 with start := xl.start } xl.l (actOp a k) obs, xl.start⟩
  | _ => xl

def xledgerRun (c0 : Cfg) : XLedger → List (XOp × List Obs) → XLedger
  | xl, [] => xl
  | xl, x :: r => xledgerRun c0 (xledgerStep c0 xl x.1 x.2) r

/-- `c0`: the configuration at boot; `y.c` differs from it in `start` / `goal` only (`setStart`, `setGoal`) -/
structure LedgerInv (c0 : Cfg) (y : Sys) (xl : XLedger) : Prop where
  kind : y.c.kind = .counter
  interval : y.c.interval = c0.interval
  down : y.c.down = c0.down
  roc : y.c.resetOnComplete = c0.resetOnComplete
  start : xl.start = y.c.start
  value : y.s.loaded = true → y.s.value = xl.l.value c0

/-- a block method never answers `refused` first (only a timer op or the clock can) -/
theorem act_not_refused (c : Cfg) (s : St) (a : Act) (k : Nat) :
    (step c s (actOp a k)).2.head? ≠ some Obs.refused := by
  cases hl : s.loaded
  · cases a <;> simp [actOp, step, hl]
  · cases a with
    | count =>
      simp only [actOp, step, hl, stepLoaded]
      cases c.kind with
      | counter => cases he : s.enabled <;> cases hw : s.windowUntil <;> simp [count, upd, he, hw]
      | _ => simp
    | advr =>
      simp only [actOp, step, hl, stepLoaded]
      cases c.kind with
      | accrual => cases hg : getFlag s.flags k <;> cases he : s.enabled <;> simp [accrualHit, upd, hg, he]
      | _ => simp
    | _ => simp [actOp, step, hl, upd]

theorem xledgerStep_runs (c0 : Cfg) (y : Sys) (xl : XLedger) (x : XOp) (o : Op) (h : xcore y x = some o) :
    xledgerStep c0 xl x (step y.c y.s o).2 = ⟨ledgerStep { c0 with start := xl.start } xl.l o (step y.c y.s o).2, xl.start⟩ := by
  cases x with
  | core o' =>
    rcases xcore_core y o' with ⟨_, hn⟩ | ⟨⟨hu, hl, _⟩, hs⟩
    · rw [hn] at h; cases h
    · rw [hs] at h; cases h; simp [xledgerStep]
  | fireD a k =>
    cases ht : takeDue y.s.now a y.pending <;> simp only [xcore, ht] at h <;> cases h
    simp only [xledgerStep, if_neg (act_not_refused y.c y.s a k)]
  | _ => cases h

theorem load_announced (c : Cfg) (s : St) : announced (load c s).2 = some (load c s).1.value := by
  cases h : c.startEnabled <;> simp [load, announced, upd, h]

theorem startMode_inv (c0 : Cfg) (y : Sys) (xl : XLedger) (p : Nat) (inv : LedgerInv c0 y xl) :
    LedgerInv c0 (startMode y p).1 (restartLedger xl (startMode y p).2) := by
  unfold startMode
  split
  · exact inv
  · split
    · exact { inv with value := fun _ => by simp [restartLedger, announced, upd, Ledger.value] }
    · simp only [restartLedger, load_announced]
      exact { inv with value := fun _ => by simp [Ledger.value] }

theorem stopMode_inv (c0 : Cfg) (y : Sys) (xl : XLedger) (inv : LedgerInv c0 y xl) : LedgerInv c0 (stopMode y) xl := by
  unfold stopMode
  split
  · exact inv
  · exact { inv with value := nofun }

theorem xledger_step (c0 : Cfg) (y : Sys) (xl : XLedger) (x : XOp) (inv : LedgerInv c0 y xl) :
    LedgerInv c0 (xstep y x).1 (xledgerStep c0 xl x (xstep y x).2) := by
  cases hx : xcore y x with
  | some o =>
    -- the ledger is run with the start value as read now and with `c0` for the rest: same `ledgerStep`, same value
    rw [(xstep_runs y x o hx).1, xledgerStep_runs c0 y xl x o hx]
    refine { inv with value := fun hl => ?_ }
    have e : ∀ l : Ledger, l.value y.c = l.value c0 := fun l => by simp [Ledger.value, hv, inv.interval, inv.down]
    have := ledger_step y.c y.s xl.l o inv.kind (fun h => (inv.value h).trans (e _).symm) hl
    rw [e] at this
    rw [this]
    congr 1
    unfold ledgerStep
    rw [inv.start, inv.roc]
  | none =>
    cases x with
    | core o =>
      rcases xcore_core_none y o hx with rfl | rfl | ⟨rfl, hd⟩
      · exact stopMode_inv c0 y xl inv
      · exact startMode_inv c0 y xl y.cur inv
      · simp only [xstep, hd, xledgerStep]
        exact { inv with value := fun h => by simp [inv.value h] }
    | fireD a k => simp only [xstep, xcore_fireD_none y a k hx]; exact inv
    | dpost a d => simp only [xstep]; split <;> exact { inv with }
    | setStart n => exact { inv with start := rfl }
    | setGoal g => exact { inv with }
    | stopMode => exact stopMode_inv c0 y xl inv
    | startMode p => exact startMode_inv c0 y xl p inv
    | newGame => simp only [xstep]; split <;> exact { inv with }
    | ctlNone => exact inv

theorem xledger_run (c0 : Cfg) (ops : List XOp) (y : Sys) (xl : XLedger) (inv : LedgerInv c0 y xl) :
    LedgerInv c0 (xrun y ops).1 (xledgerRun c0 xl (xrun y ops).2) := by
  induction ops generalizing y xl with
  | nil => exact inv
  | cons op r ih => exact ih _ _ (xledger_step c0 y xl op inv)

/-- no deadline lies in the past: neither a pending delayed call nor the end of the hit window -/
def Timely (y : Sys) : Prop := (∀ x ∈ y.pending, y.s.now ≤ x.1) ∧ WindowOk y.c y.s

theorem xinit_timely (c : Cfg) (ps bt : Bool) : Timely (xinit c ps bt) := by
  cases bt <;> exact ⟨nofun, by simp [xinit, init, unload, WindowOk]⟩

theorem stopMode_timely (y : Sys) (h : Timely y) : Timely (stopMode y) := by
  unfold stopMode; split
  · exact h
  · exact ⟨nofun, fun _ => rfl, nofun⟩

theorem startMode_timely (y : Sys) (p : Nat) (h : Timely y) : Timely (startMode y p).1 := by
  unfold startMode
  split
  · exact h
  · rename_i hl
    split
    · exact ⟨h.1, fun _ => rfl, nofun⟩
    · have := step_window y.c y.s .load h.2
      rw [step_unloaded _ _ _ (by simpa using hl)] at this
      exact ⟨fun z hz => (load_now y.c y.s).symm ▸ h.1 z hz, this⟩

theorem xstep_timely (y : Sys) (x : XOp) (h : Timely y) : Timely (xstep y x).1 := by
  cases hx : xcore y x with
  | some o =>
    have r := xstep_runs y x o hx
    rw [r.1]
    refine ⟨fun z hz => ?_, step_window y.c y.s o h.2⟩
    have hz' := h.1 z (r.2.1 z hz)
    show (step y.c y.s o).1.now ≤ z.1
    rcases step_now y.c y.s o with e | ⟨hc, e⟩ <;> rw [e]
    · exact hz'
    · -- the clock ticks only while nothing is due
      have h2 : z.1 ≠ y.s.now := fun e => by
        have : dueNow y.s.now y.pending = true := by
          simp only [dueNow, List.any_eq_true]; exact ⟨z, r.2.1 z hz, by simp [e]⟩
        rw [r.2.2 hc] at this; cases this
      omega
  | none =>
    cases x with
    | core o =>
      rcases xcore_core_none y o hx with rfl | rfl | ⟨rfl, hd⟩
      · exact stopMode_timely y h
      · exact startMode_timely y y.cur h
      · simp only [xstep, hd]; exact h
    | fireD a k => simp only [xstep, xcore_fireD_none y a k hx]; exact h
    | dpost a d =>
      simp only [xstep]
      split
      · refine ⟨fun z hz => ?_, h.2⟩
        rcases List.mem_append.mp hz with hz | hz
        · exact h.1 z hz
        · cases List.mem_singleton.mp hz; exact Nat.le_add_right _ _
      · exact h
    | stopMode => exact stopMode_timely y h
    | startMode p => exact startMode_timely y p h
    | newGame => simp only [xstep]; split <;> exact h
    | _ => exact h

theorem startMode_saved (y : Sys) (p : Nat) : (startMode y p).1.saved = y.saved := by
  unfold startMode
  split
  · rfl
  · split <;> rfl

theorem stopMode_saved (y : Sys) (q : Nat) (hq : q ≠ y.cur) : lookupSnap q (stopMode y).saved = lookupSnap q y.saved := by
  unfold stopMode; split
  · rfl
  · split
    · simp [lookupSnap, Ne.symm hq]
    · rfl

end MpfVerif.LogicBlock
