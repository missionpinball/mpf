import MpfVerif.Lemmas.Hoare
/-! The two shapes of the translated `get_and_verify_*` functions, with variable and configuration keys as parameters. -/
namespace MpfVerif.C08
open MpfVerif.Py

theorem range_of_not_cond (c : Ctx) (l : Locals) (n : String)
    (h : evalC c l (.not (.and (.cmp "<=" (.lit (.int 0)) (.var n)) (.cmp "<=" (.var n) (.lit (.int 1))))) = .ok false) :
    inRangeB (l n) 0 1000000 = true := by
  simp only [pyeval] at h
  generalize l n = p at h
  unfold inRangeB
  have e0 : (PyVal.int 0).num = some (some 0) := rfl
  have e1 : (PyVal.int 1).num = some (some 1000000) := rfl
  -- without a numeric view the first comparison raises, on NaN it is false: either way the condition is not `False`
  cases hp : p.num with
  | none => simp [pyCmp, hp, e0, pyeval] at h
  | some o =>
    cases o with
    | none => simp [pyCmp, hp, e0, pyeval] at h
    | some x =>
      by_cases h0 : 0 ≤ x
      · simpa [pyCmp, hp, e0, e1, cmpOp, h0, pyeval] using h
      · simp [pyCmp, hp, e0, cmpOp, h0, pyeval] at h

theorem ge_of_lt_cond (c : Ctx) (l : Locals) (n : String) (hi : (l n).isInt = true)
    (h : evalC c l (.cmp "<" (.var n) (.lit (.int 0))) = .ok false) : geB (l n) 0 = true := by
  simp only [pyeval] at h
  rcases isInt_cases hi with ⟨i, hp⟩ | hp | hp
  · rw [hp] at h ⊢
    have : 0 ≤ i * 1000000 := by simpa [pyCmp, PyVal.num, cmpOp, pyeval] using h
    simp [geB, PyVal.num]
    omega
  · rw [hp]; rfl
  · rw [hp]; rfl

/-- a duration check: `get_and_verify_pulse_ms`, `get_and_verify_timed_enable_ms` -/
theorem ms_sound (c : Ctx) (n e k : String) :
    Triple c (fun _ => True)
      [.ifThen (.isNone (.var n)) [.assign n (.env e)] [],
       .ifThen (.not (.isInt (.var n))) [.raise "AssertionError"] [],
       .ifThen (.cmp "<" (.var n) (.lit (.int 0))) [.raise "AssertionError"] [],
       .ifThen (.and (.truthy (.cfg k)) (.cmp ">" (.var n) (.cfg k))) [.raise "DriverLimitsError"] [],
       .ret (.var n)]
      (fun _ => False)
      (fun v => v.isInt = true ∧ geB v 0 = true ∧ ((c.cfg k).truthy = true → pyCmp ">" v (c.cfg k) = .ok false)) := by
  refine Triple.cons (fun _ => True) Triple.ifAssign_top ?_
  refine Triple.cons (fun l => (l n).isInt = true) ?_ ?_
  · exact Triple.weaken (Triple.ifRaise c _ _ _ _) (fun l h => by simpa [pyeval] using h.2)
  refine Triple.cons (fun l => (l n).isInt = true ∧ geB (l n) 0 = true) ?_ ?_
  · exact Triple.weaken (Triple.ifRaise c _ _ _ _) (fun l h => ⟨h.1, ge_of_lt_cond c l _ h.1 h.2⟩)
  refine Triple.cons (fun l => (l n).isInt = true ∧ geB (l n) 0 = true ∧
      ((c.cfg k).truthy = true → pyCmp ">" (l n) (c.cfg k) = .ok false)) ?_ ?_
  · exact Triple.weaken (Triple.ifRaise c _ _ _ _)
      (fun l h => ⟨h.1.1, h.1.2, fun ht => by simpa [pyeval, ht] using h.2⟩)
  exact Triple.ret fun l h => h

theorem sel_assign {c : Ctx} {P : Locals → Prop} {R} {n m : String} (hnm : n ≠ m) (e : Ex) {lim : PyVal}
    (hI : ∀ l, P l → inRangeB (l n) 0 1000000 = true) (he : ∀ l, P l → evalE c l e = .ok lim) :
    Triple c P [.assign m e] (fun l => inRangeB (l n) 0 1000000 = true ∧ l m = lim) R := by
  refine Triple.assign fun l v hP hv => ?_
  rw [he l hP, Except.ok.injEq] at hv
  simpa [hnm, hv] using hI l hP

/-- the tail of a power check (`get_and_verify_pulse_power`, `get_and_verify_hold_power`) after the defaults; `sel` selects
the effective limit into `m` -/
theorem power_sound {c : Ctx} {n m : String} (hnm : n ≠ m) {sel : St} {lim : PyVal}
    (hsel : Triple c (fun l => inRangeB (l n) 0 1000000 = true ∧ l m = .int 0) [sel]
      (fun l => inRangeB (l n) 0 1000000 = true ∧ l m = lim)
      (fun v => inRangeB v 0 1000000 = true ∧ pyCmp ">" v lim = .ok false)) :
    Triple c (fun _ => True)
      [.ifThen (.not (.and (.cmp "<=" (.lit (.int 0)) (.var n)) (.cmp "<=" (.var n) (.lit (.int 1))))) [.raise "AssertionError"] [],
       .assign m (.lit (.int 0)),
       sel,
       .ifThen (.cmp ">" (.var n) (.var m)) [.raise "DriverLimitsError"] [],
       .ret (.var n)]
      (fun _ => False)
      (fun v => inRangeB v 0 1000000 = true ∧ pyCmp ">" v lim = .ok false) := by
  refine Triple.cons (fun l => inRangeB (l n) 0 1000000 = true) ?_ ?_
  · exact Triple.weaken (Triple.ifRaise c _ _ _ _) (fun l h => range_of_not_cond c l _ h.2)
  refine Triple.cons _ (sel_assign hnm _ (fun _ h => h) fun _ _ => rfl) (Triple.cons _ hsel ?_)
  refine Triple.cons (fun l => inRangeB (l n) 0 1000000 = true ∧ pyCmp ">" (l n) lim = .ok false) ?_ ?_
  · refine Triple.weaken (Triple.ifRaise c _ _ _ _) fun l ⟨⟨h1, h2⟩, h3⟩ => ⟨h1, ?_⟩
    simpa [pyeval, h2] using h3
  exact Triple.ret fun l h => h

end MpfVerif.C08
