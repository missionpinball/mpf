import MpfVerif.Lemmas.BallLedgerHeading
/-! `step` is taken apart once: in each branch the new vectors arise from the old by moves of `Ledger`, `Bnd`, `Heading`. -/
namespace MpfVerif.BallLedger

theorem dequeue_eq_some {s s1 : St} {d : Nat} (h : dequeue s d = some s1) :
    ∃ u rest, s.cu d = none ∧ s.queue.getD d [] = u :: rest ∧
      s1 = { s with cur := setAt s.cur d (some u), queue := setAt s.queue d rest, tries := setAt s.tries d 0 } := by
  unfold dequeue at h
  split at h
  · cases h; exact ⟨_, _, ‹_›, ‹_›, rfl⟩
  · cases h

theorem lostPath_eq_some {c : Cfg} {s s1 : St} {a t : Nat} (h : lostPath c s a t = some s1) :
    (s.ph t = .waitBall ∧ s.cu t = some c.missing ∧
      s1 = { s with cur := setAt s.cur t none, phase := setAt s.phase t .idle }) ∨
    (findAvail c s a c.n t = true ∧ s1 = { s with avail := bump (bump s.avail t (-1)) c.missing 1 }) := by
  unfold lostPath at h
  split at h
  · rename_i hg; guards hg; cases h; exact .inl ⟨hg.1, hg.2, rfl⟩
  · obtain ⟨hg, rfl⟩ := of_ite_some h; exact .inr ⟨hg, rfl⟩

theorem creditReturn_of_ne {s : St} {d : Nat} (h : s.ph d ≠ .failedConfirm) : creditReturn s d = s := by
  simp [creditReturn, h]

theorem creditReturn_of_eq {s : St} {d : Nat} (h : s.ph d = .failedConfirm) :
    creditReturn s d = { s with balls := bump s.balls d 1, inflight := s.inflight - 1 } := by
  simp [creditReturn, h]

theorem lt_of_canCredit {s : St} {d : Nat} (hph : s.ph d = .failedConfirm) (h : canCredit s d = true) : s.b d < s.c d := by
  simpa [canCredit, hph] using h

theorem failCommon_eq_some {c : Cfg} {s s' : St} {d n : Nat} {ph : Phase} (h : failCommon c s d n ph = some s') :
    ∃ t, s.cu d = some t ∧ (d < c.n ∧ t < c.n ∧ c.edge d t = true) ∧ s.ph d = ph ∧ s.failed.getD d false = false ∧
      s.tries.getD d 0 + 1 = n ∧ (c.maxOf d = 0 ∨ n < c.maxOf d) ∧
      (ph = .failedConfirm ∧ (s.incOf t).contains d = true ∧
          s' = { s with tries := setAt s.tries d n, failed := setAt s.failed d true, heading := bump s.heading t (-1),
                        inc := setAt s.inc t ((s.incOf t).erase d) } ∨
        ph ≠ .failedConfirm ∧
          s' = { s with tries := setAt s.tries d n, failed := setAt s.failed d true, heading := bump s.heading t (-1) }) := by
  unfold failCommon at h
  split at h
  · rename_i t hcu
    obtain ⟨hg, h⟩ := of_when h
    guards hg
    obtain ⟨⟨⟨⟨⟨⟨hd, ht⟩, he⟩, hph⟩, hf⟩, hn⟩, hm⟩ := hg
    refine ⟨t, hcu, ⟨hd, ht, he⟩, hph, hf, hn, hm, ?_⟩
    obtain ⟨hfc, h⟩ | ⟨hfc, h⟩ := of_ite_eq h
    · obtain ⟨hin, rfl⟩ := of_ite_some h; exact .inl ⟨eq_of_beq hfc, hin, rfl⟩
    · cases h; exact .inr ⟨fun e => hfc (beq_iff_eq.2 e), rfl⟩
  · cases h

theorem attempt_eq_some {c : Cfg} {s s' : St} {d t n : Nat} (h : step c s (.attempt d t n) = some s') :
    d < c.n ∧ s.ph d = .waitTarget ∧ s.cu d = some t ∧ s.tries.getD d 0 = n ∧ s' = s := by
  obtain ⟨hg, rfl⟩ := of_ite_some h
  guards hg
  obtain ⟨⟨⟨hd, hph⟩, hcu⟩, hn⟩ := hg
  exact ⟨hd, hph, hcu, hn, rfl⟩

theorem ejectStart_eq_some {c : Cfg} {s s' : St} {d t : Nat} (h : step c s (.ejectStart d t) = some s') :
    d < c.n ∧ t < c.n ∧ c.edge d t = true ∧ s.ph d = .waitTarget ∧ s.failed.getD d false = false ∧ s.cu d = some t ∧
      0 < s.b d ∧ readyTo c s t = true ∧
      s' = { s with phase := setAt s.phase d .ejecting, heading := bump s.heading t 1 } := by
  obtain ⟨hg, rfl⟩ := of_ite_some h
  guards hg
  obtain ⟨⟨⟨⟨⟨⟨⟨hd, ht⟩, he⟩, hph⟩, hf⟩, hcu⟩, hb⟩, hr⟩ := hg
  exact ⟨hd, ht, he, hph, hf, hcu, hb, hr, rfl⟩

theorem ballLeft_eq_some {c : Cfg} {s s' : St} {d : Nat} (h : step c s (.ballLeft d) = some s') :
    ∃ t, s.cu d = some t ∧ d < c.n ∧ t < c.n ∧ c.edge d t = true ∧ s.ph d = .ejecting ∧ s.failed.getD d false = false ∧
      0 < s.b d ∧
      s' = { s with phase := setAt s.phase d .ballLeft, balls := bump s.balls d (-1), inflight := s.inflight + 1,
                    inc := setAt s.inc t (s.incOf t ++ [d]) } := by
  simp only [step] at h
  split at h
  · obtain ⟨hg, rfl⟩ := of_ite_some h
    guards hg
    obtain ⟨⟨⟨⟨⟨hd, ht⟩, he⟩, hph⟩, hf⟩, hb⟩ := hg
    exact ⟨_, ‹_›, hd, ht, he, hph, hf, hb, rfl⟩
  · cases h

theorem confirmTimeout_eq_some {c : Cfg} {s s' : St} {d : Nat} (h : step c s (.confirmTimeout d) = some s') :
    d < c.n ∧ s.ph d = .ballLeft ∧ s' = { s with phase := setAt s.phase d .failedConfirm } := by
  obtain ⟨hg, rfl⟩ := of_ite_some h
  guards hg
  exact ⟨hg.1, hg.2, rfl⟩

theorem broken_eq_some {c : Cfg} {s s' : St} {d : Nat} (h : step c s (.broken d) = some s') :
    ∃ t, s.cu d = some t ∧ d < c.n ∧ t < c.n ∧ c.edge d t = true ∧ s.failed.getD d false = false ∧ 0 < c.maxOf d ∧
      s.tries.getD d 0 + 1 = c.maxOf d ∧ s.brokenPosted.getD d 0 = 0 ∧
      (s.ph d = .ejecting ∧
          s' = { s with phase := setAt s.phase d .broken, tries := setAt s.tries d (c.maxOf d),
                        heading := bump s.heading t (-1), brokenPosted := setAt s.brokenPosted d 1 } ∨
        s.ph d = .failedConfirm ∧ s.b d < s.c d ∧ (s.incOf t).contains d = true ∧
          s' = { s with balls := bump s.balls d 1, inflight := s.inflight - 1, phase := setAt s.phase d .broken,
                        tries := setAt s.tries d (c.maxOf d), heading := bump s.heading t (-1),
                        brokenPosted := setAt s.brokenPosted d 1, inc := setAt s.inc t ((s.incOf t).erase d) }) := by
  simp only [step] at h
  split at h
  · obtain ⟨hg, h⟩ := of_when h
    guards hg
    obtain ⟨⟨⟨⟨⟨⟨⟨⟨hd, ht⟩, he⟩, hph⟩, hf⟩, hm⟩, hn⟩, hp⟩, hcc⟩ := hg
    refine ⟨_, ‹_›, hd, ht, he, hf, hm, hn, hp, ?_⟩
    obtain ⟨hfc, h⟩ | ⟨hfc, h⟩ := of_ite_eq h
    · have hph := eq_of_beq hfc
      obtain ⟨hin, rfl⟩ := of_ite_some h
      rw [creditReturn_of_eq hph]
      exact .inr ⟨hph, lt_of_canCredit hph hcc, hin, rfl⟩
    · have hne : s.ph d ≠ .failedConfirm := fun e => hfc (beq_iff_eq.2 e)
      cases h
      rw [creditReturn_of_ne hne]
      exact .inl ⟨hph.resolve_right hne, rfl⟩
  · cases h

theorem manualLeft_eq_some {c : Cfg} {s s' : St} {d t : Nat} (h : step c s (.manualLeft d t) = some s') :
    d < c.n ∧ t < c.n ∧ c.edge d t = true ∧ c.isPf d = false ∧ c.isMech d = true ∧ s.ph d = .idle ∧ s.cu d = none ∧
      (s.queue.getD d []).isEmpty = true ∧ 0 < s.b d ∧ 0 < s.a d ∧ s.man d = false ∧
      s' = { s with avail := bump (bump s.avail d (-1)) t 1, cur := setAt s.cur d (some t), manual := setAt s.manual d true,
                    heading := bump s.heading t 1, inc := setAt s.inc t (s.incOf t ++ [d]) } := by
  obtain ⟨hg, rfl⟩ := of_ite_some h
  guards hg
  obtain ⟨⟨⟨⟨⟨⟨⟨⟨⟨⟨hd, ht⟩, he⟩, hpf⟩, hme⟩, hph⟩, hcu⟩, hq⟩, hb⟩, ha⟩, hman⟩ := hg
  exact ⟨hd, ht, he, hpf, hme, hph, hcu, hq, hb, ha, hman, rfl⟩

theorem manualReturn_eq_some {c : Cfg} {s s' : St} {d : Nat} (h : step c s (.manualReturn d) = some s') :
    ∃ t, s.cu d = some t ∧ d < c.n ∧ t < c.n ∧ c.edge d t = true ∧ c.isPf d = false ∧ s.man d = true ∧
      s.ph d = .failedConfirm ∧ s.failed.getD d false = false ∧ (s.incOf t).contains d = true ∧ s.b d < s.c d ∧
      s' = { s with failed := setAt s.failed d true, manual := setAt s.manual d false, tries := setAt s.tries d 0,
                    inc := setAt s.inc t ((s.incOf t).erase d), heading := bump s.heading t (-1) } := by
  simp only [step] at h
  split at h
  · obtain ⟨hg, rfl⟩ := of_ite_some h
    guards hg
    obtain ⟨⟨⟨⟨⟨⟨⟨⟨hd, ht⟩, he⟩, hpf⟩, hman⟩, hph⟩, hf⟩, hin⟩, hb⟩ := hg
    exact ⟨_, ‹_›, hd, ht, he, hpf, hman, hph, hf, hin, hb, rfl⟩
  · cases h

abbrev Preserves (c : Cfg) (s s' : St) : Prop :=
  (Ledger c.n s.balls s.counted s.avail s.inflight s.known →
    Ledger c.n s'.balls s'.counted s'.avail s'.inflight s'.known) ∧
  (Bnd c s.balls s.counted → Bnd c s'.balls s'.counted) ∧
  (∀ {d t : Nat}, SoleEdge c d t → Heading c.n s.heading s.inc s.phase s.cur s.failed d t →
    Heading c.n s'.heading s'.inc s'.phase s'.cur s'.failed d t)

theorem step_preserves {c : Cfg} {s s' : St} {op : Op} (h : step c s op = some s') : Preserves c s s' := by
  cases op with
  | request => cases h; exact ⟨id, id, fun _ => id⟩
  | plan path =>
    simp only [step] at h
    split at h
    · obtain ⟨hg, rfl⟩ := of_ite_some h
      guards hg
      obtain ⟨⟨⟨⟨⟨h0, hl⟩, -⟩, -⟩, -⟩, -⟩ := hg
      exact ⟨(·.claim h0 hl), id, fun _ => id⟩
    · cases h
  | queueReq d' | reqPop d' | attempt d' t' n =>
    obtain ⟨-, rfl⟩ := of_ite_some h
    exact ⟨id, id, fun _ => id⟩
  | waitBall d' =>
    obtain ⟨hg, h⟩ := of_when h
    guards hg
    obtain ⟨⟨hd, -⟩, -⟩ := hg
    obtain ⟨hph, h⟩ | ⟨-, h⟩ := of_ite_eq h
    · obtain ⟨s1, hq, rfl⟩ := Option.map_eq_some_iff.mp h
      obtain ⟨u, rest, -, -, rfl⟩ := dequeue_eq_some hq
      exact ⟨id, id, fun _ => (·.phase_cur (ne_ejecting (eq_of_beq hph)) _)⟩
    · obtain ⟨hg, rfl⟩ := of_ite_some h
      guards hg
      obtain ⟨⟨hf, hph | hph⟩, hcc⟩ := hg
      · rw [creditReturn_of_ne (by simp [hph])]
        exact ⟨id, id, fun _ => (·.resume hf _)⟩
      · rw [creditReturn_of_eq hph]
        exact ⟨(·.land hd), (·.back (lt_of_canCredit hph hcc)), fun _ => (·.resume hf _)⟩
  | waitTarget d' =>
    obtain ⟨hg, h⟩ := of_when h
    guards hg
    obtain ⟨hd, -⟩ := hg
    obtain ⟨hph, h⟩ | ⟨-, h⟩ := of_ite_eq h
    · obtain ⟨s1, hq, rfl⟩ := Option.map_eq_some_iff.mp h
      obtain ⟨u, rest, -, -, rfl⟩ := dequeue_eq_some hq
      exact ⟨id, id, fun _ => (·.phase_cur (ne_ejecting (eq_of_beq hph)) _)⟩
    · obtain ⟨hph, h⟩ | ⟨-, h⟩ := of_ite_eq h
      · cases h
        exact ⟨id, id, fun _ => (·.phase_quiet (ne_ejecting (eq_of_beq hph)))⟩
      · obtain ⟨hg, rfl⟩ := of_ite_some h
        guards hg
        obtain ⟨⟨hf, hph | hph⟩, hcc⟩ := hg
        · rw [creditReturn_of_ne (by simp [hph])]
          exact ⟨id, id, fun _ => (·.resume hf _)⟩
        · rw [creditReturn_of_eq hph]
          exact ⟨(·.land hd), (·.back (lt_of_canCredit hph hcc)), fun _ => (·.resume hf _)⟩
  | ejectStart d' t' =>
    obtain ⟨hd, ht, he, hph, hf, hcu, -, -, rfl⟩ := ejectStart_eq_some h
    exact ⟨id, id, fun k => (·.start (k.src he) hd ht (ne_ejecting hph) hf hcu)⟩
  | ballLeft d' =>
    obtain ⟨t', hcu, hd, ht, he, hph, hf, hb, rfl⟩ := ballLeft_eq_some h
    exact ⟨(·.leave hd), (·.leave hb), fun k => (·.left (k.src he) hd ht hph hf hcu (length_snoc _ _))⟩
  | confirmTimeout d' =>
    obtain ⟨-, hph, rfl⟩ := confirmTimeout_eq_some h
    exact ⟨id, id, fun _ => (·.phase_quiet (ne_ejecting hph))⟩
  | enterExpected d' =>
    simp only [step] at h
    split at h
    · rename_i src rest hin
      obtain ⟨hg, rfl⟩ := of_ite_some h
      guards hg
      obtain ⟨⟨hd, -⟩, hc⟩ := hg
      exact ⟨fun l => (l.land hd).count _ _, (·.enter hc), fun _ => (·.both (length_tail hin))⟩
    · cases h
  | pfCapture d' =>
    obtain ⟨hg, rfl⟩ := of_ite_some h
    guards hg
    obtain ⟨⟨⟨hd, -⟩, hm⟩, hpm⟩ := hg
    exact ⟨fun l => (l.leave hm).claim hm hd, (·.pf hpm _), fun _ => id⟩
  | enterUnexpected d' =>
    obtain ⟨hg, rfl⟩ := of_ite_some h
    guards hg
    obtain ⟨⟨⟨hd, -⟩, -⟩, hc⟩ := hg
    exact ⟨fun l => (l.land hd).count _ _, (·.enter hc), fun _ => id⟩
  | pfArrived t' =>
    simp only [step] at h
    split at h
    · obtain ⟨hg, rfl⟩ := of_ite_some h
      guards hg
      exact ⟨id, id, fun k => (·.inc (k.npf hg.2) _)⟩
    · cases h
  | confirm d' t' =>
    obtain ⟨hg, h⟩ := of_when h
    guards hg
    obtain ⟨⟨⟨⟨⟨⟨-, ht⟩, -⟩, -⟩, hph⟩, -⟩, hb⟩ := hg
    obtain ⟨hpt, h⟩ | ⟨-, h⟩ := of_ite_eq h
    · obtain ⟨-, rfl⟩ := of_ite_some h
      exact ⟨fun l => (l.count _ _).land ht, fun b => (b.uncount hb).pf hpt _,
        fun k hi => ((hi.heading (k.npf hpt) _).inc (k.npf hpt) _).finish (ne_ejecting hph)⟩
    · obtain ⟨-, rfl⟩ := of_ite_some h
      exact ⟨(·.count _ _), (·.uncount hb), fun _ => (·.finish (ne_ejecting hph))⟩
  | lateConfirm d' t' =>
    obtain ⟨hg, h⟩ := of_when h
    guards hg
    obtain ⟨⟨⟨⟨⟨⟨⟨-, ht⟩, -⟩, -⟩, hph⟩, -⟩, -⟩, hb⟩ := hg
    obtain ⟨hpt, h⟩ | ⟨-, h⟩ := of_ite_eq h
    · obtain ⟨-, rfl⟩ := of_ite_some h
      exact ⟨fun l => (l.count _ _).land ht, fun b => (b.uncount hb).pf hpt _,
        fun k hi => ((hi.heading (k.npf hpt) _).inc (k.npf hpt) _).finish (ne_ejecting hph)⟩
    · obtain ⟨-, rfl⟩ := of_ite_some h
      exact ⟨(·.count _ _), (·.uncount hb), fun _ => (·.finish (ne_ejecting hph))⟩
  | ejectFailedReturn d' n =>
    obtain ⟨t', -, -, hph, -, -, -, ⟨-, hin, rfl⟩ | ⟨hne, -⟩⟩ := failCommon_eq_some h
    · exact ⟨id, id, fun _ hi => (hi.both (length_erase hin)).failed_of_phase (ne_ejecting hph) _⟩
    · exact absurd rfl hne
  | ejectFailedStuck d' n =>
    obtain ⟨t', hcu, ⟨hd, ht, he⟩, hph, hf, -, -, ⟨hfc, -⟩ | ⟨-, rfl⟩⟩ := failCommon_eq_some h
    · cases hfc
    · exact ⟨id, id, fun k => (·.stuck (k.src he) hd ht hph hf hcu)⟩
  | broken d' =>
    obtain ⟨t', hcu, hd, ht, he, hf, -, -, -, ⟨hph, rfl⟩ | ⟨hph, hb, hin, rfl⟩⟩ := broken_eq_some h
    · exact ⟨id, id, fun k => (·.broke (k.src he) hd ht hph hf hcu)⟩
    · exact ⟨(·.land hd), (·.back hb), fun _ hi => (hi.both (length_erase hin)).phase_quiet (ne_ejecting hph)⟩
  | lostEjected d' =>
    simp only [step] at h
    split at h
    · rename_i t' hcu
      obtain ⟨hg, h⟩ := of_when h
      guards hg
      obtain ⟨⟨⟨⟨⟨⟨⟨⟨⟨-, ht⟩, hm⟩, hpm⟩, -⟩, -⟩, hph⟩, -⟩, hin⟩, hb⟩ := hg
      obtain ⟨s1, hl, rfl⟩ := Option.map_eq_some_iff.mp h
      obtain ⟨hpt', -, rfl⟩ | ⟨-, rfl⟩ := lostPath_eq_some hl
      · have hp : (setAt s.phase t' .idle).getD d' .idle ≠ .ejecting := by
          rw [getD_setAt]
          split
          · decide
          · exact ne_ejecting hph
        exact ⟨fun l => (l.count _ _).land hm, fun b => (b.uncount hb).pf hpm _,
          fun _ hi => ((hi.both (length_erase hin)).phase_cur (ne_ejecting hpt') _).finish hp⟩
      · exact ⟨fun l => ((l.claim ht hm).count _ _).land hm, fun b => (b.uncount hb).pf hpm _,
          fun _ hi => (hi.both (length_erase hin)).finish (ne_ejecting hph)⟩
    · cases h
  | lostIdle d' =>
    obtain ⟨hg, rfl⟩ := of_ite_some h
    guards hg
    obtain ⟨⟨⟨⟨⟨⟨⟨hd, hm⟩, hpm⟩, -⟩, -⟩, -⟩, -⟩, hb⟩ := hg
    exact ⟨fun l => ((l.move hd hm).count _ _).claim hd hm, fun b => (b.lose hb).pf hpm _, fun _ => id⟩
  | incomingTimeout d' =>
    simp only [step] at h
    split at h
    · rename_i x rest hin
      obtain ⟨hg, h⟩ := of_when h
      guards hg
      obtain ⟨⟨⟨hd, hm⟩, hpm⟩, -⟩ := hg
      obtain ⟨s1, hl, rfl⟩ := Option.map_eq_some_iff.mp h
      obtain ⟨hph, -, rfl⟩ | ⟨-, rfl⟩ := lostPath_eq_some hl
      · exact ⟨(·.land hm), (·.pf hpm _),
          fun _ hi => (hi.both (length_tail hin)).phase_cur (ne_ejecting hph) _⟩
      · exact ⟨fun l => (l.claim hd hm).land hm, (·.pf hpm _), fun _ => (·.both (length_tail hin))⟩
    · cases h
  | newBallFound =>
    obtain ⟨hg, rfl⟩ := of_ite_some h
    guards hg
    exact ⟨(·.found hg.1.1), (·.pf hg.1.2 _), fun _ => id⟩
  | manualLeft d' t' =>
    obtain ⟨hd, ht, -, -, -, hph, -, -, -, -, -, rfl⟩ := manualLeft_eq_some h
    exact ⟨(·.claim hd ht), id, fun _ hi => (hi.both (length_snoc _ _)).cur_of_phase (ne_ejecting hph) _⟩
  | confirmManual d' t' =>
    obtain ⟨hg, rfl⟩ := of_ite_some h
    guards hg
    obtain ⟨⟨⟨⟨⟨⟨⟨⟨⟨hd, ht⟩, -⟩, -⟩, hpt⟩, -⟩, hph⟩, -⟩, hb⟩, -⟩ := hg
    exact ⟨fun l => (l.count _ _).move hd ht, fun b => (b.lose hb).pf hpt _,
      fun k hi => ((hi.heading (k.npf hpt) _).inc (k.npf hpt) _).finish (ne_ejecting hph)⟩
  | manualTimeout d' =>
    obtain ⟨hg, rfl⟩ := of_ite_some h
    guards hg
    obtain ⟨⟨⟨⟨⟨hd, -⟩, -⟩, hph⟩, -⟩, hb⟩ := hg
    exact ⟨(·.leave hd), (·.leave hb), fun _ => (·.phase_quiet (ne_ejecting hph))⟩
  | manualReturn d' =>
    obtain ⟨t', -, -, -, -, -, -, hph, -, hin, -, rfl⟩ := manualReturn_eq_some h
    exact ⟨id, id, fun _ hi => (hi.both (length_erase hin)).failed_of_phase (ne_ejecting hph) _⟩
  | extConfirm d' t' =>
    obtain ⟨hg, h⟩ := of_when h
    guards hg
    obtain ⟨⟨⟨⟨⟨⟨⟨⟨⟨-, ht⟩, -⟩, -⟩, -⟩, hph⟩, -⟩, -⟩, hb⟩, -⟩ := hg
    have hph : s.ph d' ≠ .ejecting := hph.elim (ne_ejecting ·) (ne_ejecting ·)
    obtain ⟨hpt, h⟩ | ⟨-, h⟩ := of_ite_eq h
    · cases h
      exact ⟨fun l => (l.count _ _).land ht, fun b => (b.uncount hb).pf hpt _,
        fun k hi => (hi.heading (k.npf hpt) _).finish hph⟩
    · cases h
      exact ⟨(·.count _ _), (·.uncount hb), fun _ => (·.finish hph)⟩
  | pfArrivedStale t' src | pfArrivedFrom t' src =>
    obtain ⟨hg, rfl⟩ := of_ite_some h
    guards hg
    exact ⟨id, id, fun k => (·.inc (k.npf hg.1.2) _)⟩
  | skipStart d' t' =>
    obtain ⟨-, rfl⟩ := of_ite_some h
    exact ⟨id, id, fun _ => (·.both (length_snoc _ _))⟩
  | skipConfirm d' t' =>
    simp only [step] at h
    split at h
    · rename_i src rest hin
      obtain ⟨hg, rfl⟩ := of_ite_some h
      guards hg
      obtain ⟨⟨⟨⟨⟨⟨⟨⟨-, ht⟩, -⟩, -⟩, hpt⟩, -⟩, hph⟩, -⟩, -⟩ := hg
      exact ⟨(·.land ht), (·.pf hpt _),
        fun k hi => ((hi.heading (k.npf hpt) _).both (length_tail hin)).phase_cur (ne_ejecting hph) _⟩
    · cases h
  | skipConfirmIdle d' t' =>
    simp only [step] at h
    split at h
    · rename_i src rest hin
      obtain ⟨hg, rfl⟩ := of_ite_some h
      guards hg
      obtain ⟨⟨⟨⟨⟨⟨⟨⟨hd, ht⟩, -⟩, -⟩, hpt⟩, -⟩, -⟩, -⟩, -⟩ := hg
      exact ⟨fun l => (l.land ht).claim hd ht, (·.pf hpt _),
        fun k hi => (hi.heading (k.npf hpt) _).both (length_tail hin)⟩
    · cases h
  | skipFail d' t' =>
    obtain ⟨hg, rfl⟩ := of_ite_some h
    guards hg
    exact ⟨id, id, fun _ => (·.both (length_erase hg.2))⟩

variable (c : Cfg)

theorem step_conserved (s s' : St) (op : Op) (h : step c s op = some s') (hc : Conserved c s) : Conserved c s' :=
  conserved_iff.2 ((step_preserves h).1 (conserved_iff.1 hc))

theorem run_conserved (ops : List Op) (s s' : St) (h : run c s ops = some s') (hc : Conserved c s) : Conserved c s' :=
  run_induction (step_conserved c) ops s s' h hc

theorem step_bounded (s s' : St) (op : Op) (h : step c s op = some s') (hW : WF c s) (hB : Bounded c s) : Bounded c s' :=
  ((step_preserves h).2.1 ⟨hW.hb.trans hW.hc.symm, hB⟩).node

theorem run_bounded (ops : List Op) (s s' : St) (h : run c s ops = some s') (hc : Conserved c s) (hB : Bounded c s) :
    Bounded c s' :=
  (run_induction (P := fun s => Conserved c s ∧ Bounded c s)
    (fun s s' op h hs => ⟨step_conserved c s s' op h hs.1, step_bounded c s s' op h hs.1.1 hs.2⟩) ops s s' h ⟨hc, hB⟩).2

theorem run_hinv (ops : List Op) (s s' : St) (d t : Nat) (k : SoleEdge c d t) (h : run c s ops = some s')
    (hi : HInv c s d t) : HInv c s' d t :=
  run_induction (fun _ _ _ h hi => (step_preserves h).2.2 k hi) ops s s' h hi

end MpfVerif.BallLedger
