import MpfVerif.Lemmas.BallLedger
/-! Invariant of the entrance-switch counter (`EC`, `ecStep`). -/
namespace MpfVerif.BallLedger

/-- induction invariant of the counter: the count is the balls counted in minus the balls counted out, it never exceeds the
capacity, and a hit that waits for the full time-out / the switch opening still fits -/
structure ECInv (cap : Nat) (e : EC) : Prop where
  cap_eq : e.cap = cap
  count : e.last + e.ejects = e.entries
  le_cap : e.last ≤ cap
  fits : e.pending = true → e.last + 1 ≤ cap ∧ e.fullTo = true

theorem ecStep_inv {cap : Nat} (e e' : EC) (op : ECOp) (h : ecStep e op = some e') (hi : ECInv cap e) : ECInv cap e' := by
  obtain ⟨hc, h1, h2, h3⟩ := hi
  cases op with
  | hit ignored =>
    cases ignored
    · obtain ⟨-, h⟩ | ⟨hfull, h⟩ := of_ite_eq h
      · cases h; exact ⟨hc, h1, h2, h3⟩
      · obtain ⟨hg, h⟩ | ⟨hg, h⟩ := of_ite_eq h <;> cases h
        · guards hg
          -- (`simp only []`: `omega` does not reduce the projections of the record literal)
          exact ⟨hc, h1, h2, fun _ => ⟨by simp only []; omega, hg.1⟩⟩
        · refine ⟨hc, by simp only []; omega, by simp only []; omega, fun hp => ?_⟩
          -- a pending hit means `fullTo`, so the failed test says `cap ≠ last + 1`
          have := h3 hp
          simp only [this.2, Bool.true_and, beq_iff_eq] at hg
          exact ⟨by simp only []; omega, this.2⟩
    · cases h; exact ⟨hc, h1, h2, h3⟩
  | full =>
    obtain ⟨hl, h⟩ | ⟨-, h⟩ := of_ite_eq h <;> cases h
    · exact ⟨hc, by simp only []; omega, by simp only []; omega, by simp⟩
    · exact ⟨hc, h1, h2, by simp⟩
  | left =>
    obtain ⟨hl, rfl⟩ := of_ite_some h
    exact ⟨hc, by simp only []; omega, by simp only []; omega, fun hp => ⟨by simp only []; have := h3 hp; omega, (h3 hp).2⟩⟩
  | release =>
    obtain ⟨-, h⟩ | ⟨-, h⟩ := of_ite_eq h <;> cases h
    · exact ⟨hc, h1, h2, by simp⟩
    · exact ⟨hc, h1, h2, h3⟩

theorem ecRun_inv {cap : Nat} (ops : List ECOp) (e e' : EC) (h : ecRun e ops = some e') (hi : ECInv cap e) : ECInv cap e' := by
  induction ops generalizing e with
  | nil => cases h; exact hi
  | cons op rest ih =>
    simp only [ecRun] at h
    split at h
    · exact ih _ h (ecStep_inv e _ op ‹_› hi)
    · cases h

end MpfVerif.BallLedger
