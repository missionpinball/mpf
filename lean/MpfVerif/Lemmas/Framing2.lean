import MpfVerif.Model.Framing2
import MpfVerif.Lemmas.Framing
namespace MpfVerif.Framing2
open MpfVerif.Framing

theorem delimStep_eq (d : Nat) : delimStep d = dStep d (fun f => [f]) := rfl

theorem dStep_frame {α : Type} (d : Nat) (h : Bytes → List α) (l : Bytes) :
    ∀ buf : Bytes, d ∉ l → feed (dStep d h) buf (l ++ [d]) = ([], h (buf ++ l)) := by
  induction l with
  | nil => intro buf _; simp [feed, dStep]
  | cons b r ih =>
    intro buf hd
    have hb : b ≠ d := fun e => hd (by simp [e])
    simp only [List.cons_append, feed, dStep, hb, if_false]
    rw [ih (buf ++ [b]) (fun e => hd (List.mem_cons_of_mem _ e))]
    simp

theorem dStep_frames {α : Type} (d : Nat) (h : Bytes → List α) (fs : List Bytes) (hd : ∀ f ∈ fs, d ∉ f) :
    feed (dStep d h) [] (fs.flatMap (· ++ [d])) = ([], fs.flatMap h) := by
  induction fs with
  | nil => rfl
  | cons f r ih =>
    simp only [List.flatMap_cons]
    rw [Framing.feed_append, dStep_frame d h f [] (hd f List.mem_cons_self)]
    simp only [List.nil_append]
    rw [ih (fun g hg => hd g (List.mem_cons_of_mem _ hg))]

theorem dStep_delim {α : Type} (d : Nat) (h : Bytes → List α) (buf g : Bytes) :
    (feed (dStep d h) buf (g ++ [d])).1 = [] := by
  rw [Framing.feed_append]; simp [feed, dStep]

theorem pkDispatch_sw (f : Bytes) (b n : Nat) (st : Bool) (h : pkDispatch f = .sw b n st) :
    ∃ a y z d, f = [80, 83, 87, a, y, z, d] ∧ digit? a = some b ∧
      (∃ t u, digit? y = some t ∧ digit? z = some u ∧ n = t * 10 + u) ∧ bit? d = some st := by
  -- guard by guard down to the one branch that returns `.sw`
  unfold pkDispatch at h
  replace h := of_ite_eq h
  rcases h with ⟨-, h⟩ | ⟨-, h⟩
  · cases h
  replace h := of_ite_eq h
  rcases h with ⟨-, h⟩ | ⟨-, h⟩
  · cases h
  replace h := of_ite_eq h
  rcases h with ⟨-, h⟩ | ⟨-, h⟩
  · cases h
  dsimp only at h
  replace h := of_ite_eq h
  rcases h with ⟨h4, h⟩ | ⟨-, h⟩
  · split at h
    · rename_i a y z d hp
      split at h
      · rename_i b' t u st' e1 e2 e3 e4
        cases h
        refine ⟨a, y, z, d, ?_, e1, ⟨t, u, e2, e3, rfl⟩, e4⟩
        rw [← List.take_append_drop 3 f, h4, hp]
        rfl
      · cases h
    · cases h
  · replace h := of_ite_eq h
    rcases h with ⟨-, h⟩ | ⟨-, h⟩
    · split at h
      · split at h <;> cases h
      · cases h
    · split at h <;> cases h

theorem pk_frame (f : Bytes) : ∀ s : PKSt, 69 ∉ f →
    feed pkStep s (f ++ [69]) = (pkClose { s with buf := s.buf ++ f }, [pkDispatch (s.buf ++ f)]) := by
  induction f with
  | nil => intro s _; simp [feed, pkStep]
  | cons b r ih =>
    intro s hd
    have hb : b ≠ 69 := fun e => hd (by simp [e])
    simp only [List.cons_append, feed, pkStep, hb, if_false]
    rw [ih _ (fun e => hd (List.mem_cons_of_mem _ e))]
    simp

/-- the switch report a frame stands for -/
def swOf (f : Bytes) : Option (SwKey × Bool) :=
  match pkDispatch f with
  | .sw b n st => some ((b, n), st)
  | _ => none

theorem swOf_eq_some (f : Bytes) (k : SwKey) (v : Bool) : swOf f = some (k, v) ↔ pkDispatch f = .sw k.1 k.2 v := by
  unfold swOf; cases pkDispatch f <;> simp [Prod.ext_iff, and_assoc]

@[simp] theorem pkClose_buf (s : PKSt) : (pkClose s).buf = [] := by
  simp only [pkClose]; cases pkDispatch s.buf <;> rfl

@[simp] theorem pkClose_inflight (s : PKSt) : (pkClose s).inflight = s.inflight - 1 := by
  simp only [pkClose]; cases pkDispatch s.buf <;> rfl

theorem pkClose_ready (s : PKSt) (h : s.ready = true) : (pkClose s).ready = true := by
  simp only [pkClose]; cases pkDispatch s.buf <;> simp [pkApply, h]

theorem pkClose_table (s : PKSt) : (pkClose s).table = (swOf s.buf).toList ++ s.table := by
  simp only [pkClose, swOf]; cases pkDispatch s.buf <;> rfl

theorem pk_frames_table (fs : List Bytes) : ∀ s : PKSt, s.buf = [] → (∀ f ∈ fs, 69 ∉ f) →
    (feed pkStep s (fs.flatMap (· ++ [69]))).1.table = (fs.filterMap swOf).reverse ++ s.table := by
  induction fs with
  | nil => intro s _ _; rfl
  | cons f r ih =>
    intro s hb hd
    rw [List.flatMap_cons, Framing.feed_append, pk_frame f s (hd f List.mem_cons_self),
      ih _ (pkClose_buf _) (fun g hg => hd g (List.mem_cons_of_mem _ hg)), pkClose_table]
    simp only [hb, List.nil_append, List.filterMap_cons]
    cases swOf f <;> simp

theorem lookup_skip (k : SwKey) (l r : List (SwKey × Bool)) (h : ∀ e ∈ l, e.1 ≠ k) :
    lookupSw k (l ++ r) = lookupSw k r := by
  induction l with
  | nil => rfl
  | cons e t ih =>
    obtain ⟨k', v⟩ := e
    have : k' ≠ k := h (k', v) List.mem_cons_self
    simp only [List.cons_append, lookupSw, this, if_false]
    exact ih (fun e he => h e (List.mem_cons_of_mem _ he))

theorem pk_inflight (l : Bytes) : ∀ s : PKSt,
    (feed pkStep s l).1.inflight = s.inflight - l.count 69 ∧ (s.ready = true → (feed pkStep s l).1.ready = true) := by
  induction l with
  | nil => intro s; simp [feed]
  | cons b r ih =>
    intro s
    rw [feed_cons]
    by_cases hb : b = 69
    · obtain ⟨h1, h2⟩ := ih (pkClose s)
      simp only [pkStep, hb, if_true, List.count_cons_self]
      exact ⟨by rw [h1, pkClose_inflight]; omega, fun h => h2 (pkClose_ready s h)⟩
    · have : (b == 69) = false := by simp [hb]
      simpa [pkStep, hb, List.count_cons, this] using ih { s with buf := s.buf ++ [b] }

theorem readUntil_body (sep min : Nat) (body rest : Bytes) : ∀ acc : Bytes, acc.length + body.length = min →
    readUntil sep min acc (body ++ sep :: rest) = some (acc ++ body ++ [sep], rest) := by
  induction body with
  | nil =>
    intro acc h
    simp only [List.nil_append, readUntil, List.length_append, List.length_cons, List.length_nil, List.append_nil]
    simp only [List.length_nil, Nat.add_zero] at h
    simp [h]
  | cons b r ih =>
    intro acc h
    simp only [List.cons_append, readUntil, List.length_append, List.length_cons, List.length_nil]
    simp only [List.length_cons] at h
    have : ¬ (b = sep ∧ min < acc.length + (0 + 1)) := by omega
    simp only [this, if_false]
    rw [ih (acc ++ [b]) (by simp; omega)]
    simp

/-- a response of one card: address, command, four payload bytes, CRC -/
def enc (cmd : Nat) (c : Nat × Bytes) : Bytes :=
  match c.2 with
  | [w0, w1, w2, w3] => [c.1, cmd, w0, w1, w2, w3, crc8 [c.1, cmd, w0, w1, w2, w3]]
  | _ => []

def WfCard (c : Nat × Bytes) : Prop := isAddr c.1 = true ∧ c.2.length = 4

theorem isAddr_ne_255 (a : Nat) (h : isAddr a = true) : a ≠ 255 := by
  intro e; subst e; simp [isAddr] at h

/-- the loop goes on after a response when the next bytes are an address (not EOM) and the same command -/
def Next (cmd : Nat) (l : Bytes) : Prop := ∃ x t, l = x :: cmd :: t ∧ x ≠ 255

theorem next_enc (cmd : Nat) (c : Nat × Bytes) (h : WfCard c) (l : Bytes) : Next cmd (enc cmd c ++ l) := by
  obtain ⟨a, p⟩ := c
  obtain ⟨ha, hl⟩ := h
  match p, hl with
  | [w0, w1, w2, w3], _ => exact ⟨a, _, rfl, isAddr_ne_255 a ha⟩

theorem multiParse_enc (cmd : Nat) (c : Nat × Bytes) (h : WfCard c) (l : Bytes) (hl : Next cmd l) :
    multiParse cmd (enc cmd c ++ l) = (c :: (multiParse cmd l).1, (multiParse cmd l).2) := by
  obtain ⟨a, p⟩ := c
  obtain ⟨x, t, rfl, hx⟩ := hl
  match p, h.2 with
  | [w0, w1, w2, w3], _ =>
    show multiParse cmd (a :: cmd :: w0 :: w1 :: w2 :: w3 :: crc8 [a, cmd, w0, w1, w2, w3] :: x :: cmd :: t) = _
    rw [multiParse]
    simp only [ne_eq, not_true_eq_false, if_false, hx, if_true]

theorem multiParse_enc_eom (cmd : Nat) (c : Nat × Bytes) (h : WfCard c) :
    multiParse cmd (enc cmd c ++ [255]) = ([c], .ok) := by
  obtain ⟨a, p⟩ := c
  match p, h.2 with
  | [w0, w1, w2, w3], _ => simp [enc, multiParse]

theorem multiParse_bad (cmd a w0 w1 w2 w3 k : Nat) (tail : Bytes) (hk : crc8 [a, cmd, w0, w1, w2, w3] ≠ k) :
    multiParse cmd ([a, cmd, w0, w1, w2, w3, k] ++ tail) = ([], .crc) := by
  show multiParse cmd (a :: cmd :: w0 :: w1 :: w2 :: w3 :: k :: tail) = _
  unfold multiParse
  exact if_pos hk

theorem multi_prefix (cmd : Nat) (pre : List (Nat × Bytes)) (l : Bytes) (hpre : ∀ c ∈ pre, WfCard c)
    (hl : Next cmd l) :
    multiParse cmd (pre.flatMap (enc cmd) ++ l) = (pre ++ (multiParse cmd l).1, (multiParse cmd l).2) := by
  induction pre with
  | nil => rfl
  | cons d r ih =>
    have hr : ∀ c ∈ r, WfCard c := fun c hc => hpre c (List.mem_cons_of_mem _ hc)
    have hn : Next cmd (r.flatMap (enc cmd) ++ l) := by
      cases r with
      | nil => exact hl
      | cons e r' => rw [List.flatMap_cons, List.append_assoc]; exact next_enc cmd e (hr e List.mem_cons_self) _
    rw [List.flatMap_cons, List.append_assoc, multiParse_enc cmd d (hpre d List.mem_cons_self) _ hn, ih hr]
    rfl

def gCalls (s : GSt) : List Nat := (s.written.filter (·.1)).map (·.2) ++ s.waiting

/-- nobody waits before an open gate -/
def GInv (s : GSt) : Prop := s.gate = true → s.waiting = []

theorem filter_true_map (l : List Nat) :
    ((l.map (fun k => ((true, k) : Bool × Nat))).filter (·.1)).map (·.2) = l := by
  induction l with
  | nil => rfl
  | cons a r ih => simp [ih]

theorem gStep_inv (s : GSt) (o : GOp) (h : GInv s) : GInv (gStep s o) := by
  cases o with
  | call k =>
    by_cases hg : s.gate = true
    · simp [gStep, hg, GInv]
    · intro h2; simp [gStep, hg] at h2
  | forget k => exact h
  | resp => intro _; rfl

theorem gStep_fifo (s : GSt) (o : GOp) (h : GInv s) : gCalls (gStep s o) = gCalls s ++ callIds [o] := by
  cases o with
  | call k =>
    by_cases hg : s.gate = true
    · have hw := h hg
      simp [gStep, hg, gCalls, callIds, List.filter_append, hw]
    · simp [gStep, hg, gCalls, callIds]
  | forget k => simp [gStep, gCalls, callIds, List.filter_append]
  | resp =>
    simp only [gStep, gCalls, callIds, List.filter_append, List.map_append, List.append_nil]
    rw [filter_true_map]

theorem callIds_cons (o : GOp) (r : List GOp) : callIds (o :: r) = callIds [o] ++ callIds r := by
  cases o <;> simp [callIds]

theorem gRun_fifo (ops : List GOp) : ∀ s : GSt, GInv s → gCalls (gRun s ops) = gCalls s ++ callIds ops := by
  induction ops with
  | nil => intro s _; simp [gRun, callIds]
  | cons o r ih =>
    intro s h
    simp only [gRun]
    rw [ih _ (gStep_inv s o h), gStep_fifo s o h, callIds_cons o r, List.append_assoc]

end MpfVerif.Framing2
