import MpfVerif.Model.SwitchNet
/-!
# Lemmas about the multi-switch model with re-entrant dispatch (`Model/SwitchNet.lean`, C03)

`Track n n' tr`: going from `n` to `n'` while emitting `tr`, every switch's logical state is the value of the last
`process_switch` call for it in `tr` (its old state if there is none).  It is proved for the four mutually recursive
dispatch functions at once (induction on the fuel), then for the two loops of the wake-up.
-/
namespace MpfVerif.SwitchNet
open MpfVerif.Switch

def repOf (i : Nat) : NObs → Option Bool
  | .rep j st => if j = i then some st else none
  | _ => none

/-- the logical state of the last `process_switch` call for switch `i` in a trace -/
def lastRep (i : Nat) : List NObs → Option Bool
  | [] => none
  | o :: r => (lastRep i r).orElse (fun _ => repOf i o)

def stateOf (n : Net) (i : Nat) : Option Bool := (n.sws[i]?).map (·.state)

def epochOf (n : Net) (i : Nat) : Option Nat := (n.sws[i]?).map (·.epoch)

def Track (n n' : Net) (tr : List NObs) : Prop :=
  ∀ i, stateOf n' i = (stateOf n i).map (fun b => (lastRep i tr).getD b)

theorem lastRep_append (i : Nat) (a b : List NObs) : lastRep i (a ++ b) = (lastRep i b).orElse (fun _ => lastRep i a) := by
  induction a with
  | nil => simp [lastRep]
  | cons o r ih =>
    simp only [List.cons_append, lastRep, ih]
    cases lastRep i b <;> simp [Option.orElse]

theorem Track.trans {n n1 n2 : Net} {t1 t2 : List NObs} (h1 : Track n n1 t1) (h2 : Track n1 n2 t2) :
    Track n n2 (t1 ++ t2) := by
  intro i
  rw [h2 i, h1 i, lastRep_append]
  cases stateOf n i <;> cases lastRep i t2 <;> simp [Option.orElse]

theorem Track.same (n : Net) (tr : List NObs) (h : ∀ i, lastRep i tr = none) : Track n n tr := by
  intro i
  rw [h i]
  cases stateOf n i <;> simp

theorem Track.nil (n : Net) : Track n n [] := Track.same n [] (fun _ => rfl)

theorem Track.cons {n n' : Net} {tr : List NObs} (o : NObs) (ho : ∀ i, repOf i o = none) (h : Track n n' tr) :
    Track n n' (o :: tr) := by
  have : Track n n [o] := Track.same n [o] (fun i => by simp [lastRep, ho i, Option.orElse])
  exact this.trans h

theorem modAt_eq_modify (l : List NSw) (i : Nat) (f : NSw → NSw) : modAt l i f = l.modify i f := by
  induction l generalizing i with
  | nil => simp [modAt]
  | cons s r ih => cases i with
    | zero => rfl
    | succ i => simp [modAt, ih]

theorem stateOf_upd (n : Net) (i : Nat) (f : NSw → NSw) (j : Nat) :
    stateOf (n.upd i f) j = (n.sws[j]?).map (fun s => if i = j then (f s).state else s.state) := by
  rw [stateOf, Net.upd, modAt_eq_modify, List.getElem?_modify, Option.map_eq_map, Option.map_map]
  refine congrArg (Option.map · _) (funext fun s => ?_)
  by_cases h : i = j
  · simp only [Function.comp_apply, if_pos h]
  · simp only [Function.comp_apply, if_neg h]

/-- an update of one switch that leaves its logical state alone is invisible to `Track` -/
theorem stateOf_upd_same {f : NSw → NSw} (hf : ∀ s, (f s).state = s.state) (n : Net) (i j : Nat) :
    stateOf (n.upd i f) j = stateOf n j := by
  simp only [stateOf_upd, hf, ite_self]; rfl

theorem Track.upd_left {n n' : Net} {tr : List NObs} {i : Nat} {f : NSw → NSw} (h : Track (n.upd i f) n' tr)
    (hf : ∀ s, (f s).state = s.state) : Track n n' tr :=
  fun j => by rw [h j, stateOf_upd_same hf]

theorem Track.upd_right {n n' : Net} {tr : List NObs} {i : Nat} {f : NSw → NSw} (h : Track n n' tr)
    (hf : ∀ s, (f s).state = s.state) : Track n (n'.upd i f) tr :=
  fun j => by rw [stateOf_upd_same hf, h j]

theorem addTimedN_epoch (s : NSw) (k : Nat) (e : TEntry) : (addTimedN s k e).epoch = s.epoch := rfl
theorem setReg_state (s : NSw) (st : Bool) (l : List NReg) : (s.setReg st l).state = s.state := by
  cases st <;> rfl
theorem setReg_epoch (s : NSw) (st : Bool) (l : List NReg) : (s.setReg st l).epoch = s.epoch := by
  cases st <;> rfl
theorem setReg_lastChange (s : NSw) (st : Bool) (l : List NReg) : (s.setReg st l).lastChange = s.lastChange := by
  cases st <;> rfl

theorem addHN_state (s : NSw) (now id : Nat) (st : Bool) (ms cb : Nat) : (addHN s now id st ms cb).state = s.state := by
  unfold addHN
  split
  · split <;> exact setReg_state ..
  · exact setReg_state ..

theorem addHN_epoch (s : NSw) (now id : Nat) (st : Bool) (ms cb : Nat) : (addHN s now id st ms cb).epoch = s.epoch := by
  unfold addHN
  split
  · split <;> exact setReg_epoch ..
  · exact setReg_epoch ..

theorem removeHN_epoch (s : NSw) (st : Bool) (ms cb : Nat) : (removeHN s st ms cb).epoch = s.epoch :=
  setReg_epoch ..

/-- a real change: the state becomes the reported one -/
theorem Track.changed (n : Net) (i : Nat) (st : Bool) (now : Nat) :
    Track n (n.upd i (fun s => changedN s st now)) [.rep i st] := by
  intro j
  rw [stateOf_upd, stateOf]
  by_cases h : i = j
  · -- the reported switch
    cases n.sws[j]? <;> simp [lastRep, repOf, Option.orElse, h, changedN]
  · -- any other switch
    cases n.sws[j]? <;> simp [lastRep, repOf, Option.orElse, h]

theorem Track.dup {n : Net} {i : Nat} {s : NSw} (hs : n.sws[i]? = some s) : Track n n [.rep i s.state] := by
  intro j
  simp only [stateOf, lastRep, repOf, Option.orElse]
  by_cases h : i = j
  · subst h; simp [hs]
  · cases n.sws[j]? <;> simp [h]

/-- `Track` to a result pair -/
def Tracks (n : Net) (x : Net × List NObs) : Prop := Track n x.1 x.2

structure TrackAll (f : Nat) : Prop where
  runActs : ∀ P d acts n, Tracks n (runActs f P d acts n)
  runAct : ∀ P d a n, Tracks n (runAct f P d a n)
  walk : ∀ P d i st ep rs n, Tracks n (walk f P d i st ep rs n)
  monitors : ∀ P d i st ms n, Tracks n (monitors f P d i st ms n)

theorem trackAll : ∀ f, TrackAll f := by
  intro f
  induction f with
  | zero =>
    -- without fuel each of the four returns `(n, [.overflow])`
    refine ⟨?_, ?_, ?_, ?_⟩
    · intro P d acts n; rw [runActs]; exact Track.same _ _ (fun _ => rfl)
    · intro P d a n; rw [runAct]; exact Track.same _ _ (fun _ => rfl)
    · intro P d i st ep rs n; rw [walk]; exact Track.same _ _ (fun _ => rfl)
    · intro P d i st ms n; rw [monitors]; exact Track.same _ _ (fun _ => rfl)
  | succ f ih =>
    obtain ⟨ihActs, ihAct, ihWalk, ihMon⟩ := ih
    refine ⟨?_, ?_, ?_, ?_⟩
    · intro P d acts n
      cases acts with
      | nil => rw [runActs]; exact Track.nil n
      | cons a r => rw [runActs]; exact Track.trans (ihAct P d a n) (ihActs P d r _)
    · intro P d a n
      cases a with
      | add i st ms cb => rw [runAct]; exact (Track.nil n).upd_right (fun s => addHN_state s _ _ _ _ _)
      | remove i st ms cb => rw [runAct]; exact (Track.nil n).upd_right (fun s => setReg_state ..)
      | report i l v =>
        rw [runAct]
        by_cases hd : n.maxDepth < d
        · rw [if_pos hd]; exact Track.nil n
        · rw [if_neg hd]
          cases hs : n.sws[i]? with
          | none => exact Track.nil n
          | some s =>
            dsimp only
            by_cases hdup : logicalOf s.invert l v = s.state
            · rw [if_pos hdup]; exact hdup ▸ Track.dup hs
            · rw [if_neg hdup]
              exact ((Track.changed _ _ _ _).trans (ihWalk _ _ _ _ _ _ _)).trans (ihMon _ _ _ _ _ _)
    · intro P d i st ep rs n
      cases rs with
      | nil => rw [walk]; exact Track.nil n
      | cons r rest =>
        rw [walk]
        cases hs : n.sws[i]? with
        | none => exact Track.nil n
        | some s =>
          dsimp only
          by_cases hc : (!((s.reg st).any (fun x => x.id == r.id))) = true
          · rw [if_pos hc]; exact ihWalk _ _ _ _ _ _ _
          · rw [if_neg hc]
            by_cases hz : r.ms = 0
            · rw [if_pos hz]
              exact Track.cons _ (fun _ => rfl) (Track.trans (ihActs _ _ _ _) (ihWalk _ _ _ _ _ _ _))
            · rw [if_neg hz]
              by_cases he : s.epoch = ep
              · rw [if_pos he]; exact Track.upd_left (ihWalk _ _ _ _ _ _ _) (fun _ => rfl)
              · rw [if_neg he]; exact ihWalk _ _ _ _ _ _ _
    · intro P d i st ms n
      cases ms with
      | nil => rw [monitors]; exact Track.nil n
      | cons m rest =>
        rw [monitors]
        exact Track.cons _ (fun _ => rfl) (Track.trans (ihActs _ _ _ _) (ihMon _ _ _ _ _ _))

theorem track_procEntries (f : Nat) (P : NProg) (i k ep : Nat) (es : List TEntry) : ∀ n,
    Tracks n (procEntriesN f P i k ep es n) := by
  induction es with
  | nil => exact Track.nil
  | cons e rest ih =>
    intro n
    rw [procEntriesN]
    cases hs : n.sws[i]? with
    | none => exact Track.nil n
    | some s =>
      dsimp only
      by_cases he : s.epoch ≠ ep
      · rw [if_pos he]; exact Track.nil n
      · rw [if_neg he]
        by_cases hm : e ∈ lookupT k s.timed
        · rw [if_pos hm]
          exact Track.cons _ (fun _ => rfl) (Track.trans ((trackAll f).runActs _ _ _ _) (ih _))
        · rw [if_neg hm]; exact ih n

theorem track_procKeys (f : Nat) (P : NProg) (i ep : Nat) (ks : List Nat) : ∀ n,
    Tracks n (procKeysN f P i ep ks n) := by
  induction ks with
  | nil => exact Track.nil
  | cons k ks ih =>
    intro n
    rw [procKeysN]
    cases hs : n.sws[i]? with
    | none => exact Track.nil n
    | some s =>
      dsimp only
      by_cases he : s.epoch ≠ ep
      · rw [if_pos he]; exact Track.nil n
      · rw [if_neg he]
        by_cases hk : k ≤ n.now
        · rw [if_pos hk]
          exact Track.trans (track_procEntries _ _ _ _ _ _ _) (Track.upd_left (ih _) (fun s => by split <;> rfl))
        · rw [if_neg hk]; exact ih n

theorem track_step (fuel : Nat) (P : NProg) (n : Net) (op : NOp) (r : Net × List NObs) (h : stepN fuel P n op = some r) :
    Tracks n r := by
  cases op with
  | act a => obtain rfl := Option.some.inj h; exact (trackAll (fuel + 1)).runAct P 0 a n
  | to t =>
    simp only [stepN, Option.ite_none_right_eq_some, Option.some.injEq] at h
    obtain ⟨-, rfl⟩ := h; exact Track.nil n
  | wake i =>
    simp only [stepN] at h
    cases hs : n.sws[i]? with
    | none => simp [hs] at h
    | some s =>
      cases hw : s.wake with
      | none => simp [hs, hw] at h
      | some w =>
        simp only [hs, hw, Option.ite_none_right_eq_some, Option.some.injEq] at h
        obtain ⟨-, rfl⟩ := h
        refine Track.upd_right ?_ (fun _ => rfl)
        exact Track.upd_left (f := fun s => { s with wake := none }) (track_procKeys _ _ _ _ _ _) (fun _ => rfl)
  | monitor m on => obtain rfl := Option.some.inj h; exact Track.nil n

theorem runN_cons {fuel : Nat} {P : NProg} {n : Net} {op : NOp} {ops : List NOp} {r : Net × List NObs}
    (h : runN fuel P n (op :: ops) = some r) :
    ∃ r1 r2, stepN fuel P n op = some r1 ∧ runN fuel P r1.1 ops = some r2 ∧ r = (r2.1, r1.2 ++ r2.2) := by
  rw [runN] at h
  split at h
  · cases h
  · split at h
    · cases h
    · exact ⟨_, _, ‹_›, ‹_›, (Option.some.inj h).symm⟩

theorem track_run (fuel : Nat) (P : NProg) (ops : List NOp) : ∀ (n : Net) (r : Net × List NObs),
    runN fuel P n ops = some r → Tracks n r := by
  induction ops with
  | nil => intro n r h; obtain rfl := Option.some.inj h; exact Track.nil n
  | cons op ops ih =>
    intro n r h
    obtain ⟨r1, r2, h1, h2, rfl⟩ := runN_cons h
    exact Track.trans (track_step fuel P n op r1 h1) (ih r1.1 r2 h2)

theorem futAlong_append (id : Nat) (a b : List NObs) : ∀ f, futAlong id f (a ++ b) = futAlong id (futAlong id f a) b := by
  induction a with
  | nil => exact fun _ => rfl
  | cons o t ih => intro f; cases o <;> exact ih _

/-- a resolved future ignores every later call -/
theorem futAlong_resolved (id : Nat) (tr : List NObs) : ∀ (f : Fut) (x : Nat × Nat), f.result = some x →
    futAlong id f tr = f := by
  induction tr with
  | nil => exact fun _ _ _ => rfl
  | cons o r ih =>
    intro f x hx
    cases o
    case call sw cb st ms t =>
      have : f.onCall sw t = f := by rw [Fut.onCall, hx]
      rw [futAlong, this, ite_self]; exact ih f x hx
    all_goals exact ih f x hx

theorem futAlong_fresh (id : Nat) (tr : List NObs) : ∀ (k : Nat),
    futAlong id { result := none, sets := k } tr =
      match firstCall id tr with
      | some x => { result := some x, sets := k + 1 }
      | none => { result := none, sets := k } := by
  induction tr with
  | nil => exact fun _ => rfl
  | cons o r ih =>
    intro k
    cases o
    case call sw cb st ms t =>
      rw [futAlong, firstCall]
      by_cases h : cb = id
      · rw [if_pos h, if_pos h]; exact futAlong_resolved id r _ (sw, t) rfl
      · rw [if_neg h, if_neg h]; exact ih k
    all_goals exact ih k

end MpfVerif.SwitchNet
