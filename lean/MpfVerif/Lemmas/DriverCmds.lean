import MpfVerif.Lemmas.DriverVerify
import MpfVerif.Model.Driver
/-! Lemmas about the command paths of `Model/Driver.lean`. -/
namespace MpfVerif.C08
open MpfVerif.Py MpfVerif.Driver MpfVerif.Gen.DriverVerify

def effMaxPulsePower (c : Ctx) : PyVal :=
  if (c.cfg "max_pulse_power").truthy then c.cfg "max_pulse_power"
  else if (c.cfg "default_pulse_power").truthy then c.cfg "default_pulse_power" else .int 0

def effMaxHoldPower (c : Ctx) : PyVal :=
  if (c.cfg "max_hold_power").truthy then c.cfg "max_hold_power"
  else if (c.cfg "allow_enable").truthy then .flt 1000000
  else if (c.cfg "default_hold_power").truthy then c.cfg "default_hold_power" else .int 0

def PowerOK (c : Ctx) (v : PyVal) : Prop :=
  inRangeB v 0 1000000 = true ∧ pyCmp ">" v (effMaxPulsePower c) = .ok false
def HoldOK (c : Ctx) (v : PyVal) : Prop :=
  inRangeB v 0 1000000 = true ∧ pyCmp ">" v (effMaxHoldPower c) = .ok false
def DurOK (c : Ctx) (v : PyVal) : Prop :=
  v.isInt = true ∧ geB v 0 = true ∧ ((c.cfg "max_pulse_ms").truthy = true → pyCmp ">" v (c.cfg "max_pulse_ms") = .ok false)
def TimedOK (c : Ctx) (v : PyVal) : Prop :=
  v.isInt = true ∧ geB v 0 = true ∧
    ((c.cfg "max_hold_duration").truthy = true → pyCmp ">" v (c.cfg "max_hold_duration") = .ok false)

/-- a platform command respects the coil's limits -/
def CmdOK (c : Ctx) : Cmd → Prop
  | .pulse p d => PowerOK c p ∧ DurOK c d
  | .enable pp pd hp soft =>
      PowerOK c pp ∧ (if soft then pd = .int 0 ∧ hp = pp else DurOK c pd ∧ HoldOK c hp ∧ pyCmp "==" hp (.flt 0) = .ok false)
  | .timedEnable pp pd hp hd => PowerOK c pp ∧ DurOK c pd ∧ HoldOK c hp ∧ TimedOK c hd
  | .disable => True

/-- what `Props/C08.lean` proves about the four translated limit functions, as one hypothesis for the lemmas here -/
structure VerifySound (c : Ctx) : Prop where
  ms : ∀ x v, vPulseMs c x = .ok v → DurOK c v
  pw : ∀ x v, vPulsePower c x = .ok v → PowerOK c v
  hp : ∀ x v, vHoldPower c x = .ok v → HoldOK c v
  te : ∀ x v, vTimedMs c x = .ok v → TimedOK c v

/-- a PSU-delayed call carries verified arguments -/
def PendOK (c : Ctx) : Pend → Prop
  | .pulseNow _ pm pp => DurOK c pm ∧ PowerOK c pp
  | .enableNow _ pm pp h => DurOK c pm ∧ PowerOK c pp ∧ HoldOK c h ∧ pyCmp "==" h (.flt 0) = .ok false

def PendsOK (c : Ctx) (s : Driver.St) : Prop := ∀ p ∈ s.pend, PendOK c p

theorem enableNow_eq (c : Ctx) (s : Driver.St) (pm pp h : PyVal) :
    enableNow c s pm pp h =
      ({ s with softOn := false, holdSince := some (s.holdSince.getD s.now),
                limitDue := if (c.cfg "max_hold_duration").truthy && s.limitDue.isNone
                  then some (s.now + secsToMs (c.cfg "max_hold_duration")) else s.limitDue },
       [.enable pp pm h false]) := by
  by_cases h : ((c.cfg "max_hold_duration").truthy && s.limitDue.isNone) = true <;> simp [enableNow, h]

/-- the ways one request, one timer or one delayed callback changes the state.  `V` is what is assumed about the values
that went in (`VerifySound`, verified pending calls): under it the commands sent are inside the limits; the timer invariant
does not look at them and takes `V := False`.  `afterDrop`: the delay manager drops a delayed call's entry before running it -/
inductive Outcome (c : Ctx) (V : Prop) : Driver.St → Driver.St × List Cmd → Prop
  | nop {s} : Outcome c V s (s, [])
  | disable {s} : Outcome c V s (doDisable s)
  | timerOff {s} : Outcome c V s (doDisable { s with timedDisable := none })
  | timed {s pp pd h hd} : (V → CmdOK c (.timedEnable pp pd h hd)) → Outcome c V s (s, [.timedEnable pp pd h hd])
  | pulse {s pm pp} : (V → CmdOK c (.pulse pp pm)) → Outcome c V s (s, [.pulse pp pm])
  | soft {s pp} (pm : PyVal) : (V → PowerOK c pp) →
      Outcome c V s ({ s with timedDisable := some (s.now + msOf pm), softOn := true }, [.enable pp (.int 0) pp true])
  | enable {s pm pp h} : (V → CmdOK c (.enable pp pm h false)) → Outcome c V s (enableNow c s pm pp h)
  | pend {s p} : (V → PendOK c p) → s.now ≤ p.due → Outcome c V s ({ s with pend := s.pend ++ [p] }, [])
  | afterDrop {s r} (i : Nat) : Outcome c V { s with pend := s.pend.eraseIdx i } r → Outcome c V s r

variable {c : Ctx} {V : Prop} {s : Driver.St} {r : Driver.St × List Cmd}

theorem doTimedEnable_outcome (hV : V → VerifySound c) {te hp ms pw : PyVal}
    (h : doTimedEnable c s te hp ms pw = .ok r) : Outcome c V s r := by
  simp only [doTimedEnable, bind_eq_ok, pure_eq_ok, Except.ok.injEq] at h
  obtain ⟨pd, h1, pp, h2, hd, h3, hh, h4, rfl⟩ := h
  exact .timed fun v => ⟨(hV v).pw _ _ h2, (hV v).ms _ _ h1, (hV v).hp _ _ h4, (hV v).te _ _ h3⟩

theorem pulseNow_outcome {pm pp : PyVal} (hV : V → VerifySound c ∧ DurOK c pm ∧ PowerOK c pp)
    (h : pulseNow c s pm pp = .ok r) : Outcome c V s r := by
  unfold pulseNow at h
  split at h
  · exact doTimedEnable_outcome (fun v => (hV v).1) h
  · simp only [bind_eq_ok, pure_eq_ok] at h
    obtain ⟨a, _, b, _, h⟩ := h
    split at h <;> cases h
    · exact .pulse fun v => ⟨(hV v).2.2, (hV v).2.1⟩
    · exact .soft pm fun v => (hV v).2.2

theorem doOp_outcome (hV : V → VerifySound c) {op : Op} (h : doOp c s op = .ok r) : Outcome c V s r := by
  -- a request is a chain of `>>=`: `bind_eq_ok` turns `h` into the successful intermediate results
  cases op <;> simp only [doOp, bind_eq_ok, pure_eq_ok, Except.ok.injEq] at h
  case pulse ms pw =>
    obtain ⟨pm, h1, pp, h2, h⟩ := h
    exact pulseNow_outcome (fun v => ⟨hV v, (hV v).ms _ _ h1, (hV v).pw _ _ h2⟩) h
  case pulseW ms pw mw w =>
    obtain ⟨pm, h1, pp, h2, delayed, _, h⟩ := h
    cases delayed
    · exact pulseNow_outcome (fun v => ⟨hV v, (hV v).ms _ _ h1, (hV v).pw _ _ h2⟩) (by simpa using h)
    · obtain rfl : _ = r := by simpa [pyeval] using h
      exact .pend (fun v => ⟨(hV v).ms _ _ h1, (hV v).pw _ _ h2⟩) (Nat.le_add_right _ _)
  case enable ms pw hp =>
    obtain ⟨pm, h1, pp, h2, hh, h3, zero, h4, h⟩ := h
    cases zero
    · obtain rfl : _ = r := by simpa [pyeval] using h
      exact .enable fun v => ⟨(hV v).pw _ _ h2, (hV v).ms _ _ h1, (hV v).hp _ _ h3, h4⟩
    · simp [pyeval] at h
  case enableW ms pw hp mw w =>
    obtain ⟨pm, h1, pp, h2, hh, h3, zero, h4, h⟩ := h
    cases zero
    · -- not refused: `h` says the PSU's wait decides between `_enable_now` at once and a delayed call
      simp only [pyeval, bind_eq_ok, Bool.false_eq_true, if_false, Bool.exists_bool, if_true, Except.ok.injEq] at h
      rcases h with ⟨_, rfl⟩ | ⟨_, rfl⟩
      · exact .enable fun v => ⟨(hV v).pw _ _ h2, (hV v).ms _ _ h1, (hV v).hp _ _ h3, h4⟩
      · exact .pend (fun v => ⟨(hV v).ms _ _ h1, (hV v).pw _ _ h2, (hV v).hp _ _ h3, h4⟩) (Nat.le_add_right _ _)
    · simp [pyeval] at h
  case timedEnable => exact doTimedEnable_outcome hV h
  case timedEnableW => exact doTimedEnable_outcome hV h
  case disable => subst h; exact .disable
  case advance => subst h; exact .nop
  case fire => subst h; exact .nop

theorem runPend_outcome {p : Pend} (hV : V → VerifySound c ∧ PendOK c p) : Outcome c V s (runPend c s p) := by
  cases p with
  | pulseNow d pm pp =>
    simp only [runPend]
    cases h : pulseNow c s pm pp with
    | error e => exact .nop
    | ok r => exact pulseNow_outcome (fun v => ⟨(hV v).1, (hV v).2⟩) h
  | enableNow d pm pp h => exact .enable fun v => ⟨(hV v).2.2.1, (hV v).2.1, (hV v).2.2.2⟩

theorem runTimer_outcome (hV : V → VerifySound c ∧ PendsOK c s) (w : Which) : Outcome c V s (runTimer c s w) := by
  cases w with
  | td => exact .timerOff
  | lim => exact .disable  -- `doDisable` clears `limitDue` itself, so dropping it first changes nothing
  | pend i =>
    simp only [runTimer]
    cases hp : s.pend[i]? with
    | none => exact .nop
    | some p => exact .afterDrop i (runPend_outcome fun v => ⟨(hV v).1, (hV v).2 p (List.mem_of_getElem? hp)⟩)

theorem fireTd_outcome (c : Ctx) (V : Prop) (s : Driver.St) : Outcome c V s (fireTd s) := by
  unfold fireTd
  split
  · split
    · exact .timerOff
    · exact .nop
  · exact .nop

theorem fireLim_outcome (c : Ctx) (V : Prop) (s : Driver.St) : Outcome c V s (fireLim s) := by
  unfold fireLim
  split
  · split
    · exact .disable
    · exact .nop
  · exact .nop

theorem Outcome.cmdOK (h : Outcome c V s r) (v : V) : ∀ cmd ∈ r.2, CmdOK c cmd := by
  induction h with
  | nop | pend => simp
  | disable | timerOff => simp [doDisable, CmdOK]
  | timed h | pulse h => simpa using h v
  | enable h => simpa [enableNow_eq] using h v
  | soft pm h => simpa [CmdOK] using h v
  | afterDrop i _ ih => exact ih

theorem Outcome.pendsOK (h : Outcome c V s r) (v : V) (hs : PendsOK c s) : PendsOK c r.1 := by
  induction h with
  | afterDrop i _ ih => exact ih fun q hq => hs q (List.mem_of_mem_eraseIdx hq)
  | pend hp _ =>
    intro q hq
    rcases List.mem_append.1 hq with hq | hq
    · exact hs q hq
    · rw [List.mem_singleton.1 hq]; exact hp v
  | enable => simpa [PendsOK, enableNow_eq] using hs
  | _ => exact hs

theorem advanceTo_cmds (hv : VerifySound c) (fuel : Nat) (s : Driver.St) (target : Nat) (hs : PendsOK c s) :
    PendsOK c (advanceTo c fuel s target).1 ∧ ∀ tc ∈ (advanceTo c fuel s target).2, CmdOK c tc.2 := by
  induction fuel generalizing s with
  | zero => exact ⟨hs, by simp [advanceTo]⟩
  | succ f ih =>
    unfold advanceTo
    split
    · rename_i d hd
      split
      · have h1 := runTimer_outcome (s := { s with now := max d s.now }) (fun _ : True => ⟨hv, hs⟩) (firstAt s d)
        have h2 := ih _ (h1.pendsOK trivial hs)
        refine ⟨h2.1, fun tc htc => ?_⟩
        simp only [List.mem_append, List.mem_map] at htc
        rcases htc with ⟨x, hx, rfl⟩ | htc
        · exact h1.cmdOK trivial x hx
        · exact h2.2 tc htc
      · exact ⟨hs, by simp⟩
    · exact ⟨hs, by simp⟩

theorem fire_cases (c : Ctx) (s : Driver.St) (w : Which) :
    fire c s w = none ∨ ∃ d, nextDue s = some d ∧ fire c s w = some (runTimer c { s with now := max d s.now } w) := by
  unfold fire
  split
  · split
    · exact .inr ⟨_, ‹_›, rfl⟩
    · exact .inl rfl
  · exact .inl rfl

theorem fire_eq_some {w : Which} (h : fire c s w = some r) :
    ∃ d, nextDue s = some d ∧ r = runTimer c { s with now := max d s.now } w := by
  rcases fire_cases c s w with hf | ⟨d, hd, hf⟩ <;> rw [hf] at h
  · cases h
  · exact ⟨d, hd, (Option.some.inj h).symm⟩

theorem step_cases (hV : V → VerifySound c) (s : Driver.St) (op : Op) :
    (∃ dt, step c s op = ((advance c s dt).1, true, (advance c s dt).2)) ∨
    (∃ w, step c s op = match fire c s w with
      | some (s', o) => (s', true, o.map (fun x => (s'.now, x)))
      | none => (s, false, [])) ∨
    ∃ r ok, Outcome c V s r ∧
      step c s op = ((fireDue r.1).1, ok, (r.2 ++ (fireDue r.1).2).map (fun x => (s.now, x))) := by
  unfold step
  split
  · exact .inl ⟨_, rfl⟩
  · exact .inr (.inl ⟨_, rfl⟩)
  · refine .inr (.inr ?_)
    cases h : doOp c s op with
    | error e => exact ⟨_, false, .nop, rfl⟩
    | ok r => exact ⟨r, true, doOp_outcome hV h, rfl⟩

theorem step_cmds (hv : VerifySound c) (s : Driver.St) (op : Op) (hs : PendsOK c s) :
    PendsOK c (step c s op).1 ∧ ∀ tc ∈ (step c s op).2.2, CmdOK c tc.2 := by
  rcases step_cases id s op with ⟨dt, h⟩ | ⟨w, h⟩ | ⟨r, ok, hr, h⟩ <;> rw [h]
  · exact advanceTo_cmds hv _ s _ hs
  · rcases fire_cases c s w with hf | ⟨d, _, hf⟩ <;> rw [hf]
    · exact ⟨hs, by simp⟩
    · have h1 := runTimer_outcome (s := { s with now := max d s.now }) (fun _ : True => ⟨hv, hs⟩) w
      exact ⟨h1.pendsOK trivial hs, by simpa using h1.cmdOK trivial⟩
  · have h1 := fireTd_outcome c True r.1
    have h2 := fireLim_outcome c True (fireTd r.1).1
    refine ⟨h2.pendsOK trivial (h1.pendsOK trivial (hr.pendsOK hv hs)), fun tc htc => ?_⟩
    simp only [fireDue, List.mem_map, List.mem_append] at htc
    obtain ⟨x, hx | hx | hx, rfl⟩ := htc
    · exact hr.cmdOK hv x hx
    · exact h1.cmdOK trivial x hx
    · exact h2.cmdOK trivial x hx

end MpfVerif.C08
