import MpfVerif.Model.BcpJson
import MpfVerif.Lemmas.Bcp
/-! Round trip `jdec (jenc v) = some v` of the concrete JSON model (C19), and "the JSON text is one printable-ASCII line". -/
namespace MpfVerif.Bcp

/-- a Unicode scalar value (a code point that is not a surrogate) -/
def Scalar (c : Nat) : Prop := c < 55296 ∨ (57344 ≤ c ∧ c < 1114112)

theorem unhex_hexLow (n : Nat) (h : n < 16) : unhex (hexLow n) = some n :=
  unhex_of (by unfold hexLow; split <;> omega)

theorem hex4_u4 (n : Nat) (h : n < 65536) :
    hex4 (hexLow (n / 4096 % 16)) (hexLow (n / 256 % 16)) (hexLow (n / 16 % 16)) (hexLow (n % 16)) = some n := by
  unfold hex4
  rw [unhex_hexLow _ (by omega), unhex_hexLow _ (by omega), unhex_hexLow _ (by omega), unhex_hexLow _ (by omega)]
  simp only [Option.some.injEq]
  -- digit by digit, so that `omega` sees only division by 16
  rw [show n / 4096 = n / 16 / 16 / 16 by simp [Nat.div_div_eq_div_mul],
    show n / 256 = n / 16 / 16 by simp [Nat.div_div_eq_div_mul]]
  omega

/-- `\uXXXX` read back; a high surrogate waits for its partner -/
theorem parseStrS_u4 (n : Nat) (h : n < 65536) (t : Bytes) :
    parseStrS none (u4 n ++ t) =
      if 55296 ≤ n ∧ n < 56320 then parseStrS (some n) t else consCp n (parseStrS none t) := by
  rw [parseStrS.eq_def]
  simp [u4, hex4_u4 n h]

theorem parseStrS_u4_low (hi n : Nat) (h : n < 65536) (hl : 56320 ≤ n ∧ n < 57344) (t : Bytes) :
    parseStrS (some hi) (u4 n ++ t) = consCp (65536 + (hi - 55296) * 1024 + (n - 56320)) (parseStrS none t) := by
  rw [parseStrS.eq_def]
  simp [u4, hex4_u4 n h, hl]

/-- printable ASCII -/
def Pr (b : Nat) : Prop := 32 ≤ b ∧ b ≤ 126

instance (b : Nat) : Decidable (Pr b) := by unfold Pr; infer_instance

/-- the two-character escapes of `py_encode_basestring_ascii`: (character behind the backslash, code point) -/
def shortEsc : List (Nat × Nat) := [(34, 34), (92, 92), (98, 8), (102, 12), (110, 10), (114, 13), (116, 9)]

theorem shortEsc_spec : ∀ p ∈ shortEsc, escCp p.2 = [92, p.1] ∧ p.1 ≠ 117 ∧ unesc p.1 = some p.2 ∧ Pr p.1 := by
  decide

theorem escCp_cases (c : Nat) :
    (∃ e, (e, c) ∈ shortEsc ∧ escCp c = [92, e]) ∨
    (32 ≤ c ∧ c ≤ 126 ∧ c ≠ 34 ∧ c ≠ 92 ∧ escCp c = [c]) ∨
    (c < 65536 ∧ escCp c = u4 c) ∨
    (65536 ≤ c ∧ escCp c = u4 (55296 + (c - 65536) / 1024) ++ u4 (56320 + (c - 65536) % 1024)) := by
  by_cases h : c ∈ shortEsc.map (·.2)
  · obtain ⟨⟨e, _⟩, hp, rfl⟩ := List.mem_map.mp h
    exact .inl ⟨e, hp, (shortEsc_spec _ hp).1⟩
  · simp only [shortEsc, List.map, List.mem_cons, List.not_mem_nil, or_false, not_or] at h
    obtain ⟨h1, h2, h3, h4, h5, h6, h7⟩ := h
    rw [escCp, if_neg h1, if_neg h2, if_neg h3, if_neg h4, if_neg h5, if_neg h6, if_neg h7]
    by_cases h8 : 32 ≤ c ∧ c ≤ 126
    · rw [if_pos h8]; exact .inr (.inl ⟨h8.1, h8.2, h1, h2, rfl⟩)
    · rw [if_neg h8]
      by_cases h9 : c < 65536
      · rw [if_pos h9]; exact .inr (.inr (.inl ⟨h9, rfl⟩))
      · rw [if_neg h9]; exact .inr (.inr (.inr ⟨by omega, rfl⟩))

theorem parseStrS_escCp (c : Nat) (hc : Scalar c) (t : Bytes) :
    parseStrS none (escCp c ++ t) = consCp c (parseStrS none t) := by
  unfold Scalar at hc
  rcases escCp_cases c with ⟨e, he, h⟩ | ⟨h1, _, h2, h3, h⟩ | ⟨hlt, h⟩ | ⟨hge, h⟩ <;> rw [h]
  · obtain ⟨_, h117, hu, _⟩ := shortEsc_spec _ he
    rw [parseStrS.eq_def]
    simp [h117, hu, emitPend]
  · rw [parseStrS.eq_def]
    simp [h2, h3, emitPend]
    omega
  · rw [parseStrS_u4 c hlt, if_neg (by omega)]
  · rw [List.append_assoc, parseStrS_u4 _ (by omega), if_pos (by omega), parseStrS_u4_low _ _ (by omega) (by omega)]
    rw [show 65536 + (55296 + (c - 65536) / 1024 - 55296) * 1024 + (56320 + (c - 65536) % 1024 - 56320) = c by omega]

theorem parseStr_encStrBody (s : List Nat) (hs : ∀ c ∈ s, Scalar c) (rest : Bytes) :
    parseStr (encStrBody s ++ 34 :: rest) = some (s, rest) := by
  unfold parseStr
  induction s with
  | nil => rw [encStrBody, List.nil_append, parseStrS.eq_def]; simp
  | cons c r ih =>
    rw [encStrBody, List.append_assoc, parseStrS_escCp c (hs c List.mem_cons_self),
      ih (fun x hx => hs x (List.mem_cons_of_mem _ hx))]
    rfl

theorem parseStr_encStr (s : List Nat) (hs : ∀ c ∈ s, Scalar c) (rest : Bytes) :
    parseStr (encStrBody s ++ [34] ++ rest) = some (s, rest) := by
  rw [List.append_assoc]; exact parseStr_encStrBody s hs rest

/-- what may follow a value in a JSON text: the end of the text, `,`, `]`, `}` (nothing that could extend a
    number token) -/
def Stop : Bytes → Prop
  | [] => True
  | c :: _ => c = 44 ∨ c = 93 ∨ c = 125

theorem lex_stop {rest : Bytes} (h : Stop rest) :
    spanDigits rest = ([], rest) ∧ lexMinus rest = ([], rest) ∧ lexInt rest = ([], rest) ∧ lexFrac rest = ([], rest) ∧
      lexSign rest = ([], rest) ∧ lexExp rest = ([], rest) := by
  cases rest with
  | nil => simp [spanDigits, lexMinus, lexInt, lexFrac, lexSign, lexExp]
  | cons c r =>
    rcases (h : c = 44 ∨ c = 93 ∨ c = 125) with rfl | rfl | rfl <;>
      simp [spanDigits, lexMinus, lexInt, lexFrac, lexSign, lexExp, isDigit]

/-- what the round trip needs of each piece lexer of a number: it cuts its input in two, what may follow a value does not
    change the cut, and the piece is printable -/
structure PieceLexer (L : Bytes → Bytes × Bytes) : Prop where
  concat : ∀ s, (L s).1 ++ (L s).2 = s
  ext : ∀ t {rest}, Stop rest → L (t ++ rest) = ((L t).1, (L t).2 ++ rest)
  pr : ∀ s, ∀ b ∈ (L s).1, Pr b

theorem digit_pr {b : Nat} (h : isDigit b = true) : Pr b := by
  simp [isDigit] at h
  unfold Pr
  omega

theorem spanDigits_lexer : PieceLexer spanDigits where
  concat s := by
    induction s with
    | nil => rfl
    | cons b r ih =>
      simp only [spanDigits]
      split <;> simp [ih]
  ext t rest h := by
    induction t with
    | nil =>
      simp only [List.nil_append, lex_stop h]
      rfl
    | cons b r ih =>
      simp only [List.cons_append, spanDigits]
      split <;> simp [ih]
  pr s := by
    induction s with
    | nil => simp [spanDigits]
    | cons c r ih =>
      simp only [spanDigits]
      split
      · exact List.forall_mem_cons.mpr ⟨digit_pr ‹_›, ih⟩
      · simp

theorem lexMinus_lexer : PieceLexer lexMinus where
  concat s := by
    cases s with
    | nil => rfl
    | cons b r =>
      simp only [lexMinus]
      split <;> simp_all
  ext t rest h := by
    cases t with
    | nil =>
      simp only [List.nil_append, lex_stop h]
      rfl
    | cons b r =>
      simp only [List.cons_append, lexMinus]
      split <;> simp
  pr s := by
    cases s with
    | nil => simp [lexMinus]
    | cons c r =>
      simp only [lexMinus]
      split <;> simp [Pr]

theorem lexInt_lexer : PieceLexer lexInt where
  concat s := by
    cases s with
    | nil => rfl
    | cons b r =>
      simp only [lexInt]
      split
      · simp_all
      · split <;> simp [spanDigits_lexer.concat]
  ext t rest h := by
    cases t with
    | nil =>
      simp only [List.nil_append, lex_stop h]
      rfl
    | cons b r =>
      simp only [List.cons_append, lexInt, spanDigits_lexer.ext r h]
      split
      · simp
      · split <;> simp
  pr s := by
    cases s with
    | nil => simp [lexInt]
    | cons c r =>
      simp only [lexInt]
      split
      · simp [Pr]
      · split
        · exact List.forall_mem_cons.mpr ⟨digit_pr ‹_›, spanDigits_lexer.pr r⟩
        · simp

theorem lexFrac_lexer : PieceLexer lexFrac where
  concat s := by
    cases s with
    | nil => rfl
    | cons b r =>
      simp only [lexFrac]
      split
      · simp [spanDigits_lexer.concat, ‹b = 46 ∧ _›.1]
      · simp
  ext t rest h := by
    cases t with
    | nil =>
      simp only [List.nil_append, lex_stop h]
      rfl
    | cons b r =>
      simp only [List.cons_append, lexFrac, spanDigits_lexer.ext r h]
      split <;> simp
  pr s := by
    cases s with
    | nil => simp [lexFrac]
    | cons c r =>
      simp only [lexFrac]
      split
      · exact List.forall_mem_cons.mpr ⟨by decide, spanDigits_lexer.pr r⟩
      · simp

theorem lexSign_lexer : PieceLexer lexSign where
  concat s := by
    cases s with
    | nil => rfl
    | cons b r =>
      simp only [lexSign]
      split <;> simp
  ext t rest h := by
    cases t with
    | nil =>
      simp only [List.nil_append, lex_stop h]
      rfl
    | cons b r =>
      simp only [List.cons_append, lexSign]
      split <;> simp
  pr s := by
    cases s with
    | nil => simp [lexSign]
    | cons c r =>
      simp only [lexSign]
      split
      · simp only [List.forall_mem_cons, List.not_mem_nil, false_imp_iff, implies_true, and_true, Pr]
        omega
      · simp

theorem lexExp_lexer : PieceLexer lexExp where
  concat s := by
    cases s with
    | nil => rfl
    | cons b r =>
      simp only [lexExp]
      split
      · simp only [List.cons_append, List.append_assoc, spanDigits_lexer.concat, lexSign_lexer.concat]
      · simp
  ext t rest h := by
    cases t with
    | nil =>
      simp only [List.nil_append, lex_stop h]
      rfl
    | cons b r =>
      simp only [List.cons_append, lexExp, lexSign_lexer.ext r h, spanDigits_lexer.ext _ h]
      split <;> simp
  pr s := by
    cases s with
    | nil => simp [lexExp]
    | cons c r =>
      simp only [lexExp]
      split
      · rw [List.forall_mem_cons, List.forall_mem_append]
        exact ⟨by unfold Pr; omega, lexSign_lexer.pr r, spanDigits_lexer.pr _⟩
      · simp

theorem lexNum_append (t : Bytes) {rest : Bytes} (h : Stop rest) :
    lexNum (t ++ rest) = (lexNum t).map (fun p => (p.1, p.2.1, p.2.2.1, p.2.2.2.1, p.2.2.2.2 ++ rest)) := by
  simp only [lexNum, lexMinus_lexer.ext t h, lexInt_lexer.ext _ h, lexFrac_lexer.ext _ h, lexExp_lexer.ext _ h]
  split <;> simp

/-- the pieces of a number token make up the text and are printable -/
theorem lexNum_pieces {s m i f e r : Bytes} (h : lexNum s = some (m, i, f, e, r)) :
    m ++ (i ++ (f ++ (e ++ r))) = s ∧ ∀ b ∈ m ++ (i ++ (f ++ e)), Pr b := by
  unfold lexNum at h
  split at h
  · exact absurd h (by simp)
  · simp only [Option.some.injEq, Prod.mk.injEq] at h
    obtain ⟨rfl, rfl, rfl, rfl, rfl⟩ := h
    simp only [List.forall_mem_append]
    exact ⟨by rw [lexExp_lexer.concat, lexFrac_lexer.concat, lexInt_lexer.concat, lexMinus_lexer.concat],
      lexMinus_lexer.pr _, lexInt_lexer.pr _, lexFrac_lexer.pr _, lexExp_lexer.pr _⟩

theorem lexNum_head {c : Nat} {r : Bytes} {x} (h : lexNum (c :: r) = some x) :
    isDigit c = true ∨ (c = 45 ∧ ∃ d r', r = d :: r' ∧ isDigit d = true) := by
  have digit : ∀ {d : Nat} {t : Bytes}, (lexInt (d :: t)).1.isEmpty = false → isDigit d = true := by
    intro d t hne
    simp only [lexInt] at hne
    split at hne
    · subst d; rfl
    · split at hne
      · assumption
      · simp at hne
  unfold lexNum at h
  split at h
  · exact absurd h (by simp)
  · rename_i hne
    simp only [lexMinus, Bool.not_eq_true] at hne
    split at hne
    · cases r with
      | nil => simp [lexInt] at hne
      | cons d r' => exact .inr ⟨‹_›, d, r', rfl, digit hne⟩
    · exact .inl (digit hne)

theorem parseVal_num (fuel : Nat) (s : Bytes) {x} (h : lexNum s = some x) :
    parseVal (fuel + 1) s = parseNum s := by
  cases s with
  | nil => simp [lexNum, lexMinus, lexInt] at h
  | cons c r =>
    rw [parseVal]
    rcases lexNum_head h with hd | ⟨rfl, d, r', rfl, hd⟩ <;>
      simp only [isDigit, Bool.and_eq_true, decide_eq_true_eq] at hd
    · have : c ≠ 34 ∧ c ≠ 91 ∧ c ≠ 123 ∧ c ≠ 110 ∧ c ≠ 116 ∧ c ≠ 102 ∧ c ≠ 78 ∧ c ≠ 73 ∧ c ≠ 45 := by omega
      simp [this]
    · have : d ≠ 73 := by omega
      simp [this]

theorem natDigitsAux_head (fuel n : Nat) (acc : Bytes) (hf : n < fuel) (hn : 0 < n) :
    ∃ c t, natDigitsAux fuel n acc = c :: t ∧ c ≠ 48 := by
  induction fuel generalizing n acc with
  | zero => omega
  | succ f ih =>
    unfold natDigitsAux
    split
    · exact ⟨48 + n, acc, rfl, by omega⟩
    · exact ih (n / 10) _ (by omega) (by omega)

theorem spanDigits_all (d : Bytes) (hd : ∀ b ∈ d, isDigit b = true) : spanDigits d = (d, []) := by
  induction d with
  | nil => rfl
  | cons b r ih =>
    rw [List.forall_mem_cons] at hd
    simp [spanDigits, hd.1, ih hd.2]

/-- no leading zero, so the integer part is the whole text -/
theorem lexInt_natText (n : Nat) : lexInt (natText n) = (natText n, []) := by
  by_cases hn : n = 0
  · subst hn; decide
  · obtain ⟨c, t, hct, hc⟩ := natDigitsAux_head (n + 1) n [] (by omega) (by omega)
    have hd := natText_digits n
    unfold natText at hd ⊢
    rw [hct, List.forall_mem_cons] at hd
    simp [hct, lexInt, hc, hd.1, spanDigits_all t hd.2]

theorem lexNum_natText (n : Nat) : lexNum (natText n) = some ([], natText n, [], [], []) := by
  have h45 : lexMinus (natText n) = ([], natText n) := by
    obtain ⟨c, t, hx⟩ := List.exists_cons_of_ne_nil (natText_ne_nil n)
    have hc := natText_digits n c (hx ▸ List.mem_cons_self)
    have : c ≠ 45 := by simp [isDigit] at hc; omega
    simp [hx, lexMinus, this]
  simp [lexNum, h45, lexInt_natText, natText_ne_nil, lexFrac, lexExp]

theorem lexNum_neg_natText (n : Nat) : lexNum (45 :: natText n) = some ([45], natText n, [], [], []) := by
  simp [lexNum, lexMinus, lexInt_natText, natText_ne_nil, lexFrac, lexExp]

theorem parseNum_intText (i : Int) {rest : Bytes} (h : Stop rest) :
    (∃ x, lexNum (intText i ++ rest) = some x) ∧ parseNum (intText i ++ rest) = some (J.int i, rest) := by
  cases i with
  | ofNat n =>
    have hl : lexNum (intText (Int.ofNat n) ++ rest) = some ([], natText n, [], [], rest) := by
      rw [intText, lexNum_append _ h, lexNum_natText]; rfl
    exact ⟨⟨_, hl⟩, by rw [parseNum, hl]; simp [digitsVal_natText]⟩
  | negSucc n =>
    have hl : lexNum (intText (Int.negSucc n) ++ rest) = some ([45], natText (n + 1), [], [], rest) := by
      rw [intText, lexNum_append _ h, lexNum_neg_natText]; rfl
    exact ⟨⟨_, hl⟩, by rw [parseNum, hl]; simp [digitsVal_natText, Int.negSucc_eq]⟩

theorem parseVal_float (fuel : Nat) (t : Bytes) (ht : isFloatText t = true) {rest : Bytes} (h : Stop rest) :
    parseVal (fuel + 1) (t ++ rest) = some (J.flt t, rest) := by
  unfold isFloatText at ht
  simp only [Bool.or_eq_true, beq_iff_eq] at ht
  rcases ht with (rfl | rfl) | h3
  · simp [sInfinity, parseVal, stripPrefix]
  · simp [sNegInfinity, sInfinity, parseVal, stripPrefix]
  · split at h3
    · rename_i m i f e r hl
      simp only [Bool.and_eq_true, List.isEmpty_iff, Bool.not_eq_true', Bool.and_eq_false_iff] at h3
      obtain ⟨rfl, hfe⟩ := h3
      have hc := (lexNum_pieces hl).1
      have hl' : lexNum (t ++ rest) = some (m, i, f, e, rest) := by
        rw [lexNum_append _ h, hl]; simp
      have : ¬ (f.isEmpty = true ∧ e.isEmpty = true) := by
        rcases hfe with h1 | h1 <;> simp [h1]
      rw [List.append_nil] at hc
      rw [parseVal_num fuel _ hl', parseNum, hl']
      simp only [this, if_false, hc]
    · exact absurd h3 (by simp)

theorem parseVal_bad (fuel c : Nat) (t : Bytes) (hc : isWs c = true ∨ c = 93 ∨ c = 125) :
    parseVal fuel (c :: t) = none := by
  cases fuel with
  | zero => rfl
  | succ f =>
    have : c = 32 ∨ c = 9 ∨ c = 10 ∨ c = 13 ∨ c = 93 ∨ c = 125 := by
      rcases hc with h | h | h
      · simp [isWs] at h; omega
      · omega
      · omega
    -- the first byte alone decides every test of `parseVal` and of the number lexers
    rcases this with rfl | rfl | rfl | rfl | rfl | rfl <;> rfl

theorem parseVal_head {fuel : Nat} {X : Bytes} {p} (h : parseVal fuel X = some p) :
    ∃ c t, X = c :: t ∧ isWs c = false ∧ c ≠ 93 ∧ c ≠ 125 := by
  cases X with
  | nil => cases fuel <;> simp [parseVal] at h
  | cons c t =>
    have bad := parseVal_bad fuel c t
    rw [h] at bad
    refine ⟨c, t, rfl, ?_, fun hc => ?_, fun hc => ?_⟩
    · cases hw : isWs c with
      | false => rfl
      | true => cases bad (.inl hw)
    · cases bad (.inr (.inl hc))
    · cases bad (.inr (.inr hc))

theorem skipWs_of_not (c : Nat) (t : Bytes) (h : isWs c = false) : skipWs (c :: t) = c :: t := by
  simp [skipWs, h]

theorem skipWs_space (t : Bytes) : skipWs (32 :: t) = skipWs t := by simp [skipWs, isWs]

theorem parseVal_arr {fuel f' : Nat} {X : Bytes} {p} (h : parseVal f' X = some p) :
    parseVal (fuel + 1) (91 :: X) = (parseElems fuel X).map (fun p => (J.arr p.1, p.2)) := by
  obtain ⟨c, t, rfl, hws, h93, _⟩ := parseVal_head h
  simp [parseVal, skipWs_of_not c t hws, h93]

theorem skipWs_of_parse {fuel : Nat} {X : Bytes} {p} (h : parseVal fuel X = some p) : skipWs X = X := by
  obtain ⟨c, t, rfl, hws, _, _⟩ := parseVal_head h
  exact skipWs_of_not c t hws

/-- one member `"k": v` in the encoder's layout (`: ` behind the key, no other blanks): what is left is the test behind the value -/
theorem parseMembers_step {fuel : Nat} {s1 r2 r3 : Bytes} {k : List Nat} {v : J}
    (hk : parseStr s1 = some (k, 58 :: 32 :: r2)) (hv : parseVal fuel r2 = some (v, r3)) :
    parseMembers (fuel + 1) (34 :: s1) =
      match skipWs r3 with
      | [] => none
      | d :: r4 =>
        if d = 125 then some ([(k, v)], r4)
        else if d = 44 then (parseMembers fuel (skipWs r4)).map (fun p => ((k, v) :: p.1, p.2))
        else none := by
  simp only [parseMembers, if_true, hk, skipWs_of_not 58 _ rfl, skipWs_space, skipWs_of_parse hv, hv]
  rfl

mutual
/-- the values the round trip is stated for: every code point of every string and key is a Unicode scalar value
    (a Python `str` with a lone surrogate code point is printed as `\udXXX` and two of them in a row would be read
    back as one code point), every float text is what `json.dumps` prints for a float (`isFloatText`).
    Nothing is asked of ints, nesting depth, lengths, or key uniqueness. -/
def J.WF : J → Prop
  | .null => True
  | .bool _ => True
  | .int _ => True
  | .flt t => isFloatText t = true
  | .str s => ∀ c ∈ s, Scalar c
  | .arr l => WFL l
  | .obj l => WFM l
def WFL : List J → Prop
  | [] => True
  | v :: r => v.WF ∧ WFL r
def WFM : List (List Nat × J) → Prop
  | [] => True
  | (k, v) :: r => (∀ c ∈ k, Scalar c) ∧ v.WF ∧ WFM r
end

theorem jenc_ne_nil (v : J) (h : v.WF) : jenc v ≠ [] := by
  cases v with
  | int i => cases i <;> simp [jenc, intText, natText_ne_nil]
  | flt t => rintro rfl; exact absurd (show isFloatText [] = true from h) (by decide)
  | bool b => cases b <;> simp [jenc, sTrueJ, sFalseJ]
  | _ => simp [jenc, sNull, encStr]

theorem Stop_jencL (r : List J) (rest : Bytes) : Stop (jencL false r ++ rest) := by
  cases r <;> simp [jencL, Stop]

theorem Stop_jencM (r : List (List Nat × J)) (rest : Bytes) : Stop (jencM false r ++ rest) := by
  cases r with
  | nil => simp [jencM, Stop]
  | cons kv r' => obtain ⟨k, v⟩ := kv; simp [jencM, Stop]

/-- the three parsers on the three kinds of encoder output, by induction on the fuel; the length of the text is fuel enough -/
theorem parse_all (fuel : Nat) :
    (∀ v rest, J.WF v → (jenc v).length ≤ fuel → Stop rest → parseVal fuel (jenc v ++ rest) = some (v, rest)) ∧
    (∀ v r rest, J.WF v → WFL r → (jenc v).length + (jencL false r).length ≤ fuel →
      parseElems fuel (jenc v ++ (jencL false r ++ rest)) = some (v :: r, rest)) ∧
    (∀ k v r rest, (∀ c ∈ k, Scalar c) → J.WF v → WFM r → (jenc v).length + (jencM false r).length ≤ fuel →
      parseMembers fuel (34 :: (encStrBody k ++ 34 :: 58 :: 32 :: (jenc v ++ (jencM false r ++ rest)))) =
        some ((k, v) :: r, rest)) := by
  have pos : ∀ v : J, v.WF → 1 ≤ (jenc v).length := fun v h => List.length_pos_iff.mpr (jenc_ne_nil v h)
  induction fuel with
  | zero =>
    refine ⟨?_, ?_, ?_⟩
    · intro v rest h hs; have := pos v h; omega
    · intro v r rest h _ hs; have := pos v h; omega
    · intro k v r rest _ h _ hs; have := pos v h; omega
  | succ f ih =>
    obtain ⟨ih1, ih2, ih3⟩ := ih
    refine ⟨?_, ?_, ?_⟩
    · intro v rest hwf hsz hst
      cases v with
      | null => rfl
      | bool b => cases b <;> rfl
      | int i =>
        obtain ⟨⟨x, hx⟩, hp⟩ := parseNum_intText i hst
        rw [jenc, parseVal_num f _ hx, hp]
      | flt t => exact parseVal_float f t hwf hst
      | str s => simp [jenc, encStr, parseVal, parseStr_encStrBody s hwf]
      | arr l =>
        cases l with
        | nil => rfl
        | cons v r =>
          simp only [J.WF, WFL] at hwf
          simp only [jenc, jencL, if_true, List.nil_append, List.length_cons, List.length_append] at hsz
          have hv := ih1 v (jencL false r ++ rest) hwf.1 (by omega) (Stop_jencL r rest)
          simp only [jenc, jencL, if_true, List.nil_append, List.cons_append, List.append_assoc]
          rw [parseVal_arr hv, ih2 v r rest hwf.1 hwf.2 (by omega)]
          rfl
      | obj l =>
        cases l with
        | nil => rfl
        | cons kv r =>
          obtain ⟨k, v⟩ := kv
          simp only [J.WF, WFM] at hwf
          simp only [jenc, jencM, encStr, if_true, List.nil_append, List.length_cons, List.length_append] at hsz
          simp only [jenc, jencM, encStr, if_true, List.nil_append, List.cons_append, List.append_assoc]
          simp [parseVal, skipWs, isWs, ih3 k v r rest hwf.1 hwf.2.1 hwf.2.2 (by omega)]
    · intro v r rest hv hr hsz
      have hL : 1 ≤ (jencL false r).length := by cases r <;> simp [jencL]
      have h1 := ih1 v (jencL false r ++ rest) hv (by omega) (Stop_jencL r rest)
      cases r with
      | nil =>
        simp only [jencL, List.cons_append, List.nil_append] at h1 ⊢
        simp [parseElems, h1, skipWs, isWs]
      | cons w r' =>
        simp only [WFL] at hr
        have := pos v hv
        simp only [jencL, Bool.false_eq_true, if_false, List.length_cons, List.length_append, List.length_nil] at hsz
        simp only [jencL, Bool.false_eq_true, if_false, List.cons_append, List.nil_append, List.append_assoc] at h1 ⊢
        -- `, ` and a next element that parses, hence starts with no blank
        simp [parseElems, h1, skipWs_of_not 44 _ rfl, skipWs_space,
          skipWs_of_parse (ih1 w _ hr.1 (by omega) (Stop_jencL r' rest)), ih2 w r' rest hr.1 hr.2 (by omega)]
    · intro k v r rest hk hv hr hsz
      have hs := parseStr_encStrBody k hk (58 :: 32 :: (jenc v ++ (jencM false r ++ rest)))
      have hM : 1 ≤ (jencM false r).length := by rcases r with _ | ⟨⟨_, _⟩, _⟩ <;> simp [jencM]
      have h1 := ih1 v (jencM false r ++ rest) hv (by omega) (Stop_jencM r rest)
      cases r with
      | nil =>
        simp only [jencM, List.cons_append, List.nil_append] at h1 hs ⊢
        simp [parseMembers_step hs h1, skipWs_of_not 125 _ rfl]
      | cons kw r' =>
        obtain ⟨k', w⟩ := kw
        simp only [WFM] at hr
        have := pos v hv
        simp only [jencM, encStr, Bool.false_eq_true, if_false, List.length_cons, List.length_append, List.length_nil] at hsz
        simp only [jencM, encStr, Bool.false_eq_true, if_false, List.cons_append, List.nil_append,
          List.append_assoc] at h1 hs ⊢
        -- `, ` and the next key's quote
        simp [parseMembers_step hs h1, skipWs_of_not 44 _ rfl, skipWs_space, skipWs_of_not 34 _ rfl,
          ih3 k' w r' rest hr.1 hr.2.1 hr.2.2 (by omega)]

/-- **the round trip**: `json.loads(json.dumps(v)) == v` in the model, for every well-formed value -/
theorem jdec_jenc (v : J) (h : v.WF) : jdec (jenc v) = some v := by
  have hp := (parse_all ((jenc v).length + 1)).1 v [] h (by omega) trivial
  rw [List.append_nil] at hp
  obtain ⟨c, t, hX, hws, _, _⟩ := parseVal_head hp
  unfold jdec
  rw [hX] at hp ⊢
  rw [skipWs_of_not c t hws, hp]
  rfl

theorem hexLow_pr (n : Nat) (h : n < 16) : Pr (hexLow n) := by
  unfold hexLow Pr; split <;> omega

theorem u4_pr (n : Nat) : ∀ b ∈ u4 n, Pr b := by
  simp only [u4, List.forall_mem_cons, List.not_mem_nil, false_imp_iff, implies_true, and_true]
  exact ⟨by decide, by decide, hexLow_pr _ (by omega), hexLow_pr _ (by omega), hexLow_pr _ (by omega),
    hexLow_pr _ (by omega)⟩

theorem escCp_pr (c : Nat) : ∀ b ∈ escCp c, Pr b := by
  rcases escCp_cases c with ⟨e, he, h⟩ | ⟨h1, h2, _, _, h⟩ | ⟨_, h⟩ | ⟨_, h⟩ <;> rw [h]
  · simp only [List.forall_mem_cons, List.not_mem_nil, false_imp_iff, implies_true, and_true]
    obtain ⟨_, _, _, hpr⟩ := shortEsc_spec _ he
    exact ⟨by decide, hpr⟩
  · simpa using ⟨h1, h2⟩
  · exact u4_pr c
  · simp only [List.forall_mem_append]; exact ⟨u4_pr _, u4_pr _⟩

theorem encStr_pr (s : List Nat) : ∀ b ∈ encStr s, Pr b := by
  have body : ∀ b ∈ encStrBody s, Pr b := by
    induction s with
    | nil => simp [encStrBody]
    | cons c r ih => rw [encStrBody, List.forall_mem_append]; exact ⟨escCp_pr c, ih⟩
  rw [encStr, List.forall_mem_cons, List.forall_mem_append]
  exact ⟨by decide, body, by decide⟩

theorem intText_pr (i : Int) : ∀ b ∈ intText i, Pr b := by
  intro b hb
  rcases intText_chars i b hb with h | rfl
  · exact digit_pr h
  · decide

theorem isFloatText_pr (t : Bytes) (ht : isFloatText t = true) : ∀ b ∈ t, Pr b := by
  unfold isFloatText at ht
  simp only [Bool.or_eq_true, beq_iff_eq] at ht
  rcases ht with (rfl | rfl) | h3
  · decide
  · decide
  · split at h3
    · rename_i m i f e r hl
      simp only [Bool.and_eq_true, List.isEmpty_iff] at h3
      obtain ⟨rfl, _⟩ := h3
      have hp := lexNum_pieces hl
      simp only [List.append_nil] at hp
      rw [← hp.1]
      exact hp.2
    · exact absurd h3 (by simp)

mutual
theorem jenc_ascii : ∀ v : J, v.WF → ∀ b ∈ jenc v, Pr b
  | .null, _ => by decide
  | .bool b, _ => by cases b <;> decide
  | .int i, _ => intText_pr i
  | .flt t, h => isFloatText_pr t h
  | .str s, _ => encStr_pr s
  | .arr l, h => List.forall_mem_cons.mpr ⟨by decide, jencL_ascii l h true⟩
  | .obj l, h => List.forall_mem_cons.mpr ⟨by decide, jencM_ascii l h true⟩
theorem jencL_ascii : ∀ l : List J, WFL l → ∀ first, ∀ b ∈ jencL first l, Pr b
  | [], _, first => by cases first <;> decide
  | v :: r, h, first => by
    simp only [jencL, List.forall_mem_append]
    exact ⟨by cases first <;> decide, jenc_ascii v h.1, jencL_ascii r h.2 false⟩
theorem jencM_ascii : ∀ l : List (List Nat × J), WFM l → ∀ first, ∀ b ∈ jencM first l, Pr b
  | [], _, first => by cases first <;> decide
  | (k, v) :: r, h, first => by
    simp only [jencM, List.forall_mem_append, List.forall_mem_cons]
    exact ⟨by cases first <;> decide, encStr_pr k, by decide, by decide, jenc_ascii v h.2.1, jencM_ascii r h.2.2 false⟩
end

/-- no raw newline in the JSON text (the BCP framing is line based) -/
theorem jenc_one_line (v : J) (h : v.WF) : 10 ∉ jenc v :=
  fun hm => absurd (jenc_ascii v h 10 hm) (by decide)

/-- `[null, true, -12, 1e+22, "a\"\\\n😀\x7f", [], {}, {"k": [1, false], "": {}}]` -/
def sample : J :=
  .arr [.null, .bool true, .int (-12), .flt [49, 101, 43, 50, 50], .str [97, 34, 92, 10, 128512, 127], .arr [],
    .obj [], .obj [([107], .arr [.int 1, .bool false]), ([], .obj [])]]

example : jdec (jenc sample) = some sample := by rfl

example : jenc (.str [97, 34, 92, 10, 128512, 127]) =
    [34, 97, 92, 34, 92, 92, 92, 110, 92, 117, 100, 56, 51, 100, 92, 117, 100, 101, 48, 48,
     92, 117, 48, 48, 55, 102, 34] := by decide

example : jdec [32, 91, 49, 32, 44, 9, 45, 48, 46, 53, 69, 45, 51, 44, 32, 123, 34, 92, 117, 68, 56, 51, 68, 92, 117,
    100, 101, 48, 48, 92, 47, 34, 10, 58, 32, 110, 117, 108, 108, 125, 93, 13] =
    some (.arr [.int 1, .flt [45, 48, 46, 53, 69, 45, 51], .obj [([128512, 47], .null)]]) := by rfl

example : jdec [91, 49, 44, 93] = none := by rfl   -- `[1,]`
example : jdec [48, 49] = none := by rfl           -- `01`
example : jdec (jenc (.flt sNaN)) = some (.flt sNaN) := by rfl

end MpfVerif.Bcp
