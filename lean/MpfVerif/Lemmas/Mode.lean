import MpfVerif.Model.Mode
/-! # Lemmas for C07: invariants of the mode-lifecycle model, preserved by every step -/
namespace MpfVerif.Mode

def Op.target : Op → Nat
  | .start m _ _ _ => m | .started m => m | .startedCb m => m | .stop m => m | .stopped m => m | .stoppedCb m => m
  | .addH m _ => m | .addSw m _ => m | .addDl m _ => m | .fireDl m _ => m | .turnEnd m => m
  | .cfgPlay m _ => m | .cfgSub m _ _ => m | .addTm m _ => m | .fireTm m _ => m | .remTm m _ => m
  | .ctlCall m _ => m

def evIdx : Ev → Nat
  | .ws => 0 | .sg => 1 | .sd => 2 | .wp => 3 | .pg => 4 | .pd => 5

/-- recogniser of prefixes of (ws sg sd wp pg pd)*, started at position `p`; answers the position reached -/
def dfa : Nat → List Ev → Option Nat
  | p, [] => some p
  | p, e :: r => if evIdx e = p then dfa ((p + 1) % 6) r else none

def proj (m : Nat) (log : List (Nat × Ev)) : List Ev := (log.filter (fun x => x.1 == m)).map (·.2)

/-- where in the cycle a mode is, read off its flags -/
def pos (ms : MState) : Nat := if ms.starting then 2 else if ms.stopping then 5 else if ms.active then 3 else 0

theorem dfa_append (p : Nat) (l1 l2 : List Ev) : dfa p (l1 ++ l2) = (dfa p l1).bind (fun q => dfa q l2) := by
  induction l1 generalizing p with
  | nil => simp [dfa]
  | cons e r ih =>
    simp only [List.cons_append, dfa]
    split
    · exact ih _
    · simp

theorem proj_append (m : Nat) (l1 l2 : List (Nat × Ev)) : proj m (l1 ++ l2) = proj m l1 ++ proj m l2 := by
  simp [proj, List.filter_append]

@[simp] theorem upd_same (f : Nat → MState) (m : Nat) (x : MState) : upd f m x m = x := by simp [upd]
theorem upd_other (f : Nat → MState) (m : Nat) (x : MState) (i : Nat) (h : i ≠ m) : upd f m x i = f i := by simp [upd, h]

theorem before_irrefl (modes : Nat → MState) (a : Nat) : before modes a a = false := by simp [before]

theorem before_iff (modes : Nat → MState) (a b : Nat) :
    before modes a b = true ↔ ((modes b).prio < (modes a).prio ∨ ((modes a).prio = (modes b).prio ∧ b < a)) := by
  simp [before]

theorem before_trans (modes : Nat → MState) (a b c : Nat) (h1 : before modes a b = true) (h2 : before modes b c = true) :
    before modes a c = true := by
  rw [before_iff] at *
  omega

theorem before_total (modes : Nat → MState) (a b : Nat) (hne : a ≠ b) (h : before modes a b = false) :
    before modes b a = true := by
  rw [Bool.eq_false_iff] at h
  rw [ne_eq, before_iff] at h
  rw [before_iff]
  omega

theorem before_congr (f g : Nat → MState) (a b : Nat) (ha : (f a).prio = (g a).prio) (hb : (f b).prio = (g b).prio) :
    before f a b = before g a b := by simp [before, ha, hb]

theorem mem_ins (modes : Nat → MState) (m x : Nat) (l : List Nat) : x ∈ ins modes m l ↔ x = m ∨ x ∈ l := by
  induction l with
  | nil => simp [ins]
  | cons y ys ih =>
    simp only [ins]
    split <;> simp [ih, or_left_comm]

theorem pairwise_ins (modes : Nat → MState) (m : Nat) (l : List Nat) (hm : m ∉ l)
    (hp : l.Pairwise (fun a b => before modes a b = true)) :
    (ins modes m l).Pairwise (fun a b => before modes a b = true) := by
  induction l with
  | nil => simp [ins]
  | cons y ys ih =>
    obtain ⟨hy, hys⟩ := List.pairwise_cons.mp hp
    simp only [ins]
    split
    · next hb =>
      refine List.pairwise_cons.mpr ⟨fun z hz => ?_, hp⟩
      rcases List.mem_cons.mp hz with rfl | h
      · exact hb
      · exact before_trans modes m y z hb (hy z h)
    · next hb =>
      refine List.pairwise_cons.mpr ⟨fun z hz => ?_, ih (fun h => hm (.tail _ h)) hys⟩
      rcases (mem_ins modes m z ys).mp hz with rfl | h
      · exact before_total modes z y (fun h => hm (h ▸ .head _)) (by simpa using hb)
      · exact hy z h

theorem mkEnts_owner (o : Nat) (c : Cls) (n : Nat) : ∀ e ∈ mkEnts o c n, e.owner = o ∧ e.cls = c := by
  induction n with
  | zero => simp [mkEnts]
  | succ k ih =>
    intro e he
    simp only [mkEnts, List.mem_append, List.mem_singleton] at he
    rcases he with h | h
    · exact ih e h
    · simp [h]

/-- `step` as transition rules; `same` covers every request that is refused or ignored -/
theorem step_cases {motive : Op → St → Prop} {st st' : St} {op : Op} (h : step st op = some st')
    (same : ∀ op, motive op st)
    (start : ∀ m p q, (st.modes m).active = false → (st.modes m).starting = false →
      motive (.start m p q true) (startCore (cleanup st m) m p q))
    (started : ∀ m, (st.modes m).starting = true →
      motive (.started m) { st with
        modes := upd st.modes m { st.modes m with active := true, starting := false,
                                                  pStartedCb := (st.modes m).pStartedCb + 1 },
        act := if (st.modes m).active then st.act else
          ins (upd st.modes m { st.modes m with active := true, starting := false,
                                                pStartedCb := (st.modes m).pStartedCb + 1 }) m st.act,
        bus := st.bus.filter (fun e => !(ownedBy m e && e.cls == .turn)) ++ mkEnts m .dev (st.cfg m).nDev,
        log := st.log ++ [(m, .sd)] })
    (startedCb : ∀ m, (st.modes m).pStartedCb ≠ 0 →
      motive (.startedCb m)
        { st with modes := upd st.modes m { st.modes m with pStartedCb := (st.modes m).pStartedCb - 1 } })
    (stop : ∀ m, (st.modes m).active = true → (st.modes m).stopping = false →
      motive (.stop m) { st with
        modes := upd st.modes m { st.modes m with stopping := true },
        sw := st.sw.filter (fun e => !ownedBy m e),
        dl := st.dl.filter (fun e => !ownedBy m e),
        log := st.log ++ [(m, .wp), (m, .pg)] })
    (stopped : ∀ m, (st.modes m).stopping = true →
      motive (.stopped m) { st with
        modes := upd st.modes m { st.modes m with prio := 0, active := false, stopping := false, waitQ := false,
                                                  stopMethods := false, pStoppedCb := (st.modes m).pStoppedCb + 1,
                                                  cleanupPending := true },
        act := if (st.modes m).active then st.act.filter (fun x => x != m) else st.act,
        bus := st.bus.filter (fun e => !(ownedBy m e && e.cls == .cfg)),
        fx := st.fx.filter (fun e => !ownedBy m e),
        log := st.log ++ [(m, .pd)] })
    (stoppedCb : ∀ m, (st.modes m).pStoppedCb ≠ 0 → motive (.stoppedCb m) (cbCore (cleanup st m) m))
    (addH : ∀ m id, motive (.addH m id) { st with bus := st.bus ++ [⟨m, .own, 1000 + id⟩] })
    (addSw : ∀ m id, motive (.addSw m id) { st with sw := st.sw ++ [⟨m, .own, id⟩] })
    (addDl : ∀ m id, motive (.addDl m id) { st with dl := st.dl ++ [⟨m, .own, id⟩] })
    (fireDl : ∀ m id, motive (.fireDl m id) { st with dl := st.dl.filter (fun e => e != ⟨m, .own, id⟩) })
    (turnEnd : ∀ m, (st.modes m).starting = true → motive (.turnEnd m) { st with bus := st.bus ++ [⟨m, .turn, 0⟩] })
    (cfgPlay : ∀ m id, (st.modes m).active = true →
      motive (.cfgPlay m id) { st with fx := st.fx ++ [⟨m, .cfg, id⟩] })
    (cfgSubOn : ∀ m id, up (st.modes m) = true →
      motive (.cfgSub m id true) { st with fx := st.fx ++ [⟨m, .cfg, id⟩] })
    (cfgSubOff : ∀ m id,
      motive (.cfgSub m id false) { st with fx := st.fx.filter (fun e => e != ⟨m, .cfg, id⟩) })
    (addTm : ∀ m id, alive (st.modes m) = true → motive (.addTm m id) { st with tm := st.tm ++ [⟨m, .dev, id⟩] })
    (fireTm : ∀ m id, motive (.fireTm m id) { st with tm := st.tm.filter (fun e => e != ⟨m, .dev, id⟩) })
    (remTm : ∀ m id, motive (.remTm m id) { st with tm := st.tm.filter (fun e => e != ⟨m, .dev, id⟩) })
    (ctlCall : ∀ m dl, motive (.ctlCall m dl) { st with dl := st.dl ++ ctlEnt m dl }) :
    motive op st' := by
  revert h
  -- the branches of `step`, in the order of its definition; a branch that answers `none` has no `st'`
  fun_cases step st op <;> intro h <;> cases h
  next => exact same _  -- start refused
  next m p q g _ hg =>
    simp only [Bool.or_eq_true, Bool.not_eq_true', not_or, Bool.not_eq_false, Bool.not_eq_true] at hg
    obtain ⟨⟨rfl, ha⟩, hs⟩ := hg
    exact start m p q ha hs
  next m _ hs _ => exact started m (by simpa using hs)
  next m _ hp => exact startedCb m hp
  next => exact same _  -- stop refused
  next m _ hg =>
    simp only [Bool.or_eq_true, Bool.not_eq_true', not_or, Bool.not_eq_false, Bool.not_eq_true] at hg
    exact stop m hg.1 hg.2
  next m _ hs => exact stopped m (by simpa using hs)
  next m _ hp => exact stoppedCb m hp
  next m id => exact addH m id
  next m id => exact addSw m id
  next m id => exact addDl m id
  next m hs => exact turnEnd m hs
  next m id _ => exact fireDl m id
  next m id hg => exact cfgPlay m id (by simp only [Bool.and_eq_true] at hg; exact hg.1.1)
  next => exact same _  -- cfgPlay: mode not active, id ≥ 100 or already recorded
  next => exact same _  -- cfgSub: id ≥ 100
  next => exact same _  -- cfgSub on: already recorded
  next m id hu _ _ => exact cfgSubOn m id (by simpa using hu)
  next m id on _ _ hon =>
    cases on
    · exact cfgSubOff m id
    · exact absurd rfl hon
  next m id ha => exact addTm m id ha
  next m id _ => exact fireTm m id
  next m id => exact remTm m id
  next m dl _ => exact ctlCall m dl
  next => exact same _  -- ctlCall: mode not up

theorem step_stoppedCb {st st' : St} {m : Nat} (h : step st (.stoppedCb m) = some st') : st' = cbCore (cleanup st m) m := by
  simp only [step, Option.ite_none_left_eq_some, Option.some.injEq] at h
  exact h.2.symm

theorem others_filter {m : Nat} {p : Ent → Bool} (l : List Ent) (hp : ∀ e, e.owner ≠ m → p e = true) :
    (l.filter p).filter (fun e => e.owner != m) = l.filter (fun e => e.owner != m) := by
  rw [List.filter_filter]
  apply List.filter_congr
  intro e _
  by_cases h : e.owner = m
  · simp [h]
  · simp [hp e h]

theorem others_append {m : Nat} (l : List Ent) {es : List Ent} (h : ∀ e ∈ es, e.owner = m) :
    (l ++ es).filter (fun e => e.owner != m) = l.filter (fun e => e.owner != m) := by
  have : es.filter (fun e => e.owner != m) = [] := List.filter_eq_nil_iff.mpr fun e he => by simp [h e he]
  rw [List.filter_append, this, List.append_nil]

theorem mem_of_others {m : Nat} {l l' : List Ent}
    (h : l'.filter (fun e => e.owner != m) = l.filter (fun e => e.owner != m)) {e : Ent} (he : e ∈ l') (ho : e.owner ≠ m) :
    e ∈ l :=
  (List.mem_filter.mp (h ▸ List.mem_filter.mpr ⟨he, by simpa using ho⟩)).1

theorem eq_of_others {m : Nat} {l l' : List Ent}
    (h : l'.filter (fun e => e.owner != m) = l.filter (fun e => e.owner != m))
    (h' : ∀ e ∈ l', e.owner ≠ m) (h0 : ∀ e ∈ l, e.owner ≠ m) : l' = l := by
  rwa [List.filter_eq_self.mpr (by simpa using h'), List.filter_eq_self.mpr (by simpa using h0)] at h

structure Frame (m : Nat) (st st' : St) : Prop where
  cfg : st'.cfg = st.cfg := by rfl
  modes : ∀ i, i ≠ m → st'.modes i = st.modes i := by exact fun _ _ => rfl
  bus : st'.bus.filter (fun e => e.owner != m) = st.bus.filter (fun e => e.owner != m) := by rfl
  sw : st'.sw.filter (fun e => e.owner != m) = st.sw.filter (fun e => e.owner != m) := by rfl
  dl : st'.dl.filter (fun e => e.owner != m) = st.dl.filter (fun e => e.owner != m) := by rfl
  fx : st'.fx.filter (fun e => e.owner != m) = st.fx.filter (fun e => e.owner != m) := by rfl
  tm : st'.tm.filter (fun e => e.owner != m) = st.tm.filter (fun e => e.owner != m) := by rfl

theorem Frame.refl (m : Nat) (st : St) : Frame m st st := {}

theorem Frame.trans {m : Nat} {a b c : St} (h1 : Frame m a b) (h2 : Frame m b c) : Frame m a c where
  cfg := h2.cfg.trans h1.cfg
  modes := fun i hi => (h2.modes i hi).trans (h1.modes i hi)
  bus := h2.bus.trans h1.bus
  sw := h2.sw.trans h1.sw
  dl := h2.dl.trans h1.dl
  fx := h2.fx.trans h1.fx
  tm := h2.tm.trans h1.tm

theorem keeps_unowned_and {m : Nat} (r : Ent → Bool) : ∀ e : Ent, e.owner ≠ m → (!(ownedBy m e && r e)) = true := by
  intro e he
  simp [ownedBy, he]

theorem keeps_unowned {m : Nat} : ∀ e : Ent, e.owner ≠ m → (!ownedBy m e) = true :=
  fun e he => by simpa using keeps_unowned_and (m := m) (fun _ => true) e he

theorem keeps_others {m : Nat} (c : Cls) (id : Nat) : ∀ e : Ent, e.owner ≠ m → (e != ⟨m, c, id⟩) = true := by
  intro e he
  simp only [bne_iff_ne, ne_eq]
  rintro rfl
  exact he rfl

theorem owner_singleton (m : Nat) (c : Cls) (id : Nat) : ∀ e ∈ [(⟨m, c, id⟩ : Ent)], e.owner = m :=
  List.forall_mem_singleton.mpr rfl

theorem ctlEnt_owner (m : Nat) (dl : Option Nat) : ∀ e ∈ ctlEnt m dl, e.owner = m := by
  cases dl
  · intro e he
    cases he
  · exact owner_singleton m _ _

theorem cleanup_frame (st : St) (m : Nat) : Frame m st (cleanup st m) := by
  unfold cleanup
  split
  · exact { modes := fun i hi => upd_other _ _ _ i hi
            bus := others_filter _ (keeps_unowned_and _)
            sw := others_filter _ keeps_unowned
            dl := others_filter _ keeps_unowned
            tm := others_filter _ keeps_unowned }
  · exact .refl m st

theorem startCore_frame (st : St) (m : Nat) (p : Option Int) (q : Bool) : Frame m st (startCore st m p q) where
  modes := fun i hi => upd_other _ _ _ i hi
  bus := (others_append _ fun e he => (mkEnts_owner m _ _ e he).1).trans
    (others_append _ fun e he => (mkEnts_owner m _ _ e he).1)

theorem step_frame {st st' : St} {op : Op} (h : step st op = some st') : Frame op.target st st' := by
  apply step_cases h
  case same => exact fun _ => .refl _ st
  case start =>
    intro m p q _ _
    exact (cleanup_frame st m).trans (startCore_frame _ m p q)
  case started =>
    intro m _
    exact { modes := fun i hi => upd_other _ _ _ i hi
            bus := (others_append _ fun e he => (mkEnts_owner m _ _ e he).1).trans
              (others_filter _ (keeps_unowned_and _)) }
  case startedCb => exact fun m _ => { modes := fun i hi => upd_other _ _ _ i hi }
  case stop =>
    intro m _ _
    exact { modes := fun i hi => upd_other _ _ _ i hi
            sw := others_filter _ keeps_unowned
            dl := others_filter _ keeps_unowned }
  case stopped =>
    intro m _
    exact { modes := fun i hi => upd_other _ _ _ i hi
            bus := others_filter _ (keeps_unowned_and _)
            fx := others_filter _ keeps_unowned }
  case stoppedCb =>
    intro m _
    exact (cleanup_frame st m).trans { modes := fun i hi => upd_other _ _ _ i hi }
  case addH | turnEnd =>
    intros
    exact { bus := others_append _ (owner_singleton _ _ _) }
  case addSw => exact fun m id => { sw := others_append _ (owner_singleton m _ _) }
  case addDl => exact fun m id => { dl := others_append _ (owner_singleton m _ _) }
  case ctlCall => exact fun m dl => { dl := others_append _ (ctlEnt_owner m dl) }
  case fireDl => exact fun m id => { dl := others_filter _ (keeps_others _ _) }
  case cfgPlay | cfgSubOn =>
    intros
    exact { fx := others_append _ (owner_singleton _ _ _) }
  case cfgSubOff => exact fun m id => { fx := others_filter _ (keeps_others _ _) }
  case addTm => exact fun m id _ => { tm := others_append _ (owner_singleton m _ _) }
  case fireTm | remTm => exact fun m id => { tm := others_filter _ (keeps_others _ _) }

theorem run_induction {P : St → Prop} (ops : List Op) {st : St} (h0 : P st)
    (hstep : ∀ st op st', op ∈ ops → P st → step st op = some st' → P st') : P (run st ops) := by
  induction ops generalizing st with
  | nil => exact h0
  | cons op r ih =>
    refine ih ?_ fun st op st' ho => hstep st op st' (List.mem_cons_of_mem _ ho)
    cases hs : step st op with
    | none => exact h0
    | some st' => exact hstep st op st' List.mem_cons_self h0 hs

theorem run_frame {st : St} {ops : List Op} {m : Nat} (ht : ∀ op ∈ ops, op.target = m) : Frame m st (run st ops) :=
  run_induction ops (.refl m st) fun _ op _ ho hF h => hF.trans (ht op ho ▸ step_frame h)

theorem run_cfg (st : St) (ops : List Op) : (run st ops).cfg = st.cfg :=
  run_induction (P := fun s => s.cfg = st.cfg) ops rfl fun _ _ _ _ hP h => (step_frame h).cfg.trans hP

theorem run_append (st : St) (a b : List Op) : run st (a ++ b) = run (run st a) b := by
  induction a generalizing st with
  | nil => rfl
  | cons op r ih => exact ih _

structure Inv (st : St) : Prop where
  excl : ∀ m, (st.modes m).active = true → (st.modes m).starting = false
  stopAct : ∀ m, (st.modes m).stopping = true → (st.modes m).active = true
  mem : ∀ m, m ∈ st.act ↔ (st.modes m).active = true
  sorted : st.act.Pairwise (fun a b => before st.modes a b = true)
  cfgOwned : ∀ e ∈ st.bus, e.cls = .cfg → (st.modes e.owner).starting = true ∨ (st.modes e.owner).active = true
  life : ∀ m, dfa 0 (proj m st.log) = some (pos (st.modes m))
  turnOwned : ∀ e ∈ st.bus, e.cls = .turn → (st.modes e.owner).starting = true

theorem inv_init (cfg : Nat → Cfg) : Inv (init cfg) := by
  constructor <;> simp [init, proj, dfa, pos]

/-- all that `Inv` sees of a mode -/
def MState.flags (ms : MState) : Bool × Bool × Bool × Int := (ms.active, ms.starting, ms.stopping, ms.prio)

theorem upd_congr {α : Type} (g : MState → α) {f : Nat → MState} {m : Nat} {x : MState} (h : g x = g (f m)) (i : Nat) :
    g (upd f m x i) = g (f i) := by
  unfold upd
  split
  · next hi =>
      rw [hi]
      exact h
  · rfl

theorem Inv.of_flags {st st' : St} (hI : Inv st) (hf : ∀ i, (st'.modes i).flags = (st.modes i).flags)
    (hact : st'.act = st.act) (hbus : ∀ e ∈ st'.bus, e ∈ st.bus) (hlog : st'.log = st.log) : Inv st' := by
  have ha i : (st'.modes i).active = (st.modes i).active := congrArg (·.1) (hf i)
  have hs i : (st'.modes i).starting = (st.modes i).starting := congrArg (·.2.1) (hf i)
  have hp i : (st'.modes i).stopping = (st.modes i).stopping := congrArg (·.2.2.1) (hf i)
  have hr i : (st'.modes i).prio = (st.modes i).prio := congrArg (·.2.2.2) (hf i)
  refine ⟨?_, ?_, ?_, ?_, ?_, ?_, ?_⟩
  · intro m
    rw [ha, hs]
    exact hI.excl m
  · intro m
    rw [hp, ha]
    exact hI.stopAct m
  · intro m
    rw [hact, ha]
    exact hI.mem m
  · rw [hact]
    exact hI.sorted.imp fun {a b} h => by rwa [before_congr _ _ a b (hr a) (hr b)]
  · intro e he hc
    rw [hs, ha]
    exact hI.cfgOwned e (hbus e he) hc
  · intro m
    rw [hlog, hI.life m]
    simp only [pos, ha, hs, hp]
  · intro e he hc
    rw [hs]
    exact hI.turnOwned e (hbus e he) hc

theorem cleanup_modes {α : Type} (g : MState → α) (hg : ∀ ms, g { ms with cleanupPending := false } = g ms)
    (st : St) (m i : Nat) : g ((cleanup st m).modes i) = g (st.modes i) := by
  unfold cleanup
  split
  · exact upd_congr g (hg _) i
  · rfl

theorem cleanup_inv {st : St} (hI : Inv st) (m : Nat) : Inv (cleanup st m) := by
  unfold cleanup
  split
  · exact hI.of_flags (fun i => upd_congr MState.flags (by rfl) i) rfl (fun e he => (List.mem_filter.mp he).1) rfl
  · exact hI

structure ActOk (f : Nat → MState) (l : List Nat) : Prop where
  mem : ∀ i, i ∈ l ↔ (f i).active = true
  sorted : l.Pairwise (fun a b => before f a b = true)

theorem Inv.actOk {st : St} (hI : Inv st) : ActOk st.modes st.act := ⟨hI.mem, hI.sorted⟩

theorem pairwise_upd {f : Nat → MState} {m : Nat} {x : MState} {l : List Nat} (hm : m ∉ l ∨ x.prio = (f m).prio)
    (hp : l.Pairwise (fun a b => before f a b = true)) : l.Pairwise (fun a b => before (upd f m x) a b = true) := by
  have hx : ∀ a ∈ l, (upd f m x a).prio = (f a).prio := by
    intro a ha
    unfold upd
    split
    · next h =>
        subst h
        exact hm.resolve_left (fun h => h ha)
    · rfl
  exact hp.imp_of_mem fun {a b} ha hb hab => by rwa [before_congr _ f a b (hx a ha) (hx b hb)]

theorem ActOk.keep {f : Nat → MState} {m : Nat} {x : MState} {l : List Nat} (h : ActOk f l)
    (ha : x.active = (f m).active) (hp : (f m).active = false ∨ x.prio = (f m).prio) : ActOk (upd f m x) l := by
  refine ⟨fun i => ?_, pairwise_upd (hp.imp_left fun hna hm => by simp [(h.mem m).mp hm] at hna) h.sorted⟩
  rw [upd_congr (·.active) ha]
  exact h.mem i

theorem ActOk.ins {f : Nat → MState} {m : Nat} {x : MState} {l : List Nat} (h : ActOk f l)
    (hna : (f m).active = false) (ha : x.active = true) : ActOk (upd f m x) (ins (upd f m x) m l) := by
  have hm : m ∉ l := fun hm => by simp [(h.mem m).mp hm] at hna
  refine ⟨fun i => ?_, pairwise_ins _ m l hm (pairwise_upd (Or.inl hm) h.sorted)⟩
  rw [mem_ins]
  by_cases hi : i = m
  · simp [hi, ha]
  · simp [hi, upd_other _ _ _ _ hi, h.mem i]

theorem ActOk.erase {f : Nat → MState} {m : Nat} {x : MState} {l : List Nat} (h : ActOk f l)
    (ha : x.active = false) : ActOk (upd f m x) (l.filter (fun i => i != m)) := by
  refine ⟨fun i => ?_, pairwise_upd (Or.inl (by simp)) (h.sorted.filter _)⟩
  by_cases hi : i = m
  · simp [hi, ha]
  · simp [hi, upd_other _ _ _ _ hi, h.mem i]

/-- for a step of mode `m` it is enough to check what `Inv` says about `m` itself; `Frame` carries the rest over -/
theorem Inv.step_at {st st' : St} {m : Nat} {x : MState} (hI : Inv st) (F : Frame m st st') (hx : st'.modes m = x)
    (evs : List Ev) (hlog : st'.log = st.log ++ evs.map (fun e => (m, e)))
    (hlife : dfa (pos (st.modes m)) evs = some (pos x))
    (hexcl : x.active = true → x.starting = false) (hstop : x.stopping = true → x.active = true)
    (hact : ActOk st'.modes st'.act)
    (hcfg : ∀ e ∈ st'.bus, e.owner = m → e.cls = .cfg → x.starting = true ∨ x.active = true)
    (hturn : ∀ e ∈ st'.bus, e.owner = m → e.cls = .turn → x.starting = true) : Inv st' := by
  subst hx
  refine ⟨fun i => ?_, fun i => ?_, hact.mem, hact.sorted, fun e he hc => ?_, fun i => ?_, fun e he hc => ?_⟩
  · by_cases hi : i = m
    · exact hi ▸ hexcl
    · rw [F.modes i hi]
      exact hI.excl i
  · by_cases hi : i = m
    · exact hi ▸ hstop
    · rw [F.modes i hi]
      exact hI.stopAct i
  · by_cases ho : e.owner = m
    · rw [ho]
      exact hcfg e he ho hc
    · rw [F.modes _ ho]
      exact hI.cfgOwned e (mem_of_others F.bus he ho) hc
  · rw [hlog, proj_append, dfa_append, hI.life i]
    by_cases hi : i = m
    · subst hi
      have : proj i (evs.map (fun e => (i, e))) = evs := by simp [proj, List.filter_map, Function.comp_def]
      rw [this]
      exact hlife
    · have : proj i (evs.map (fun e => (m, e))) = [] := by
        simp [proj, List.filter_map, Function.comp_def, Ne.symm hi]
      rw [this, F.modes i hi]
      rfl
  · by_cases ho : e.owner = m
    · rw [ho]
      exact hturn e he ho hc
    · rw [F.modes _ ho]
      exact hI.turnOwned e (mem_of_others F.bus he ho) hc

theorem Inv.not_stopping {st : St} (hI : Inv st) {m : Nat} (hna : (st.modes m).active = false) :
    (st.modes m).stopping = false :=
  Bool.eq_false_iff.mpr fun hx => by simp [hI.stopAct m hx] at hna

theorem startCore_inv {st : St} (hI : Inv st) (m : Nat) (p : Option Int) (q : Bool)
    (hna : (st.modes m).active = false) (hns : (st.modes m).starting = false) : Inv (startCore st m p q) := by
  have hnp := hI.not_stopping hna
  exact hI.step_at (startCore_frame st m p q) (upd_same _ _ _) [.ws, .sg] rfl
    (by simp [pos, hns, hnp, hna, dfa, evIdx]) (by simp [hna]) (by simp [hnp])
    (hI.actOk.keep rfl (Or.inl hna)) (fun _ _ _ _ => Or.inl rfl) (fun _ _ _ _ => rfl)

theorem step_inv {st st' : St} {op : Op} (hI : Inv st) (h : step st op = some st') : Inv st' := by
  have F := step_frame h
  revert F
  apply step_cases h
  case same => exact fun _ _ => hI
  case start =>
    intro m p q ha hs _
    exact startCore_inv (cleanup_inv hI m) m p q
      ((cleanup_modes (·.active) (fun _ => rfl) st m m).trans ha)
      ((cleanup_modes (·.starting) (fun _ => rfl) st m m).trans hs)
  case started =>
    intro m hs F
    have hna : (st.modes m).active = false := Bool.eq_false_iff.mpr fun hx => by simp [hI.excl m hx] at hs
    have hnp := hI.not_stopping hna
    refine hI.step_at (m := m) F (upd_same _ _ _) [.sd] rfl (by simp [pos, hs, hnp, dfa, evIdx]) (fun _ => rfl) (fun _ => rfl)
      ?_ (fun _ _ _ _ => Or.inr rfl) fun e he ho hc => ?_
    · simp only [hna, Bool.false_eq_true, if_false]
      exact hI.actOk.ins hna rfl
    · rcases List.mem_append.mp he with he | he
      · simp [ownedBy, ho, hc] at he
      · simp [(mkEnts_owner _ _ _ e he).2] at hc
  case startedCb =>
    intro m _ _
    exact hI.of_flags (fun i => upd_congr MState.flags (by rfl) i) rfl (fun _ he => he) rfl
  case stop =>
    intro m ha hp F
    have hns := hI.excl m ha
    exact hI.step_at (m := m) F (upd_same _ _ _) [.wp, .pg] rfl (by simp [pos, hns, hp, ha, dfa, evIdx]) (fun _ => hns)
      (fun _ => ha) (hI.actOk.keep rfl (Or.inr rfl)) (fun _ _ _ _ => Or.inr ha)
      (fun e he ho hc => ho ▸ hI.turnOwned e he hc)
  case stopped =>
    intro m hp F
    have ha := hI.stopAct m hp
    have hns := hI.excl m ha
    refine hI.step_at (m := m) F (upd_same _ _ _) [.pd] rfl (by simp [pos, hns, hp, dfa, evIdx]) nofun nofun ?_
      (fun e he ho hc => ?_) (fun e he ho hc => ho ▸ hI.turnOwned e (List.mem_filter.mp he).1 hc)
    · simp only [ha, if_true]
      exact hI.actOk.erase rfl
    · simp [ownedBy, ho, hc] at he
  case stoppedCb =>
    intro m _ _
    exact (cleanup_inv hI m).of_flags (fun i => upd_congr MState.flags (by rfl) i) rfl (fun _ he => he) rfl
  case addH =>
    intro m id _
    exact ⟨hI.excl, hI.stopAct, hI.mem, hI.sorted,
      List.forall_mem_append.mpr ⟨hI.cfgOwned, List.forall_mem_singleton.mpr nofun⟩, hI.life,
      List.forall_mem_append.mpr ⟨hI.turnOwned, List.forall_mem_singleton.mpr nofun⟩⟩
  case turnEnd =>
    intro m hs _
    exact ⟨hI.excl, hI.stopAct, hI.mem, hI.sorted,
      List.forall_mem_append.mpr ⟨hI.cfgOwned, List.forall_mem_singleton.mpr nofun⟩, hI.life,
      List.forall_mem_append.mpr ⟨hI.turnOwned, List.forall_mem_singleton.mpr fun _ => hs⟩⟩
  case addSw | addDl | fireDl | cfgPlay | cfgSubOn | cfgSubOff | addTm | fireTm | remTm | ctlCall =>
    intros
    exact hI.of_flags (fun _ => rfl) rfl (fun _ he => he) rfl

theorem Inv.idle_cleanup_bus {st : St} (hI : Inv st) {m : Nat} (ha : (st.modes m).active = false)
    (hs : (st.modes m).starting = false) :
    ∀ e ∈ st.bus.filter (fun e => !(ownedBy m e && (e.cls == .own || e.cls == .dev))), e.owner ≠ m := by
  intro e he ho
  obtain ⟨he, hk⟩ := List.mem_filter.mp he
  cases hc : e.cls
  case own | dev => simp [ownedBy, ho, hc] at hk
  case cfg => simpa [ho, ha, hs] using hI.cfgOwned e he hc
  case turn => simpa [ho, hs] using hI.turnOwned e he hc

theorem run_inv {st : St} (ops : List Op) (hI : Inv st) : Inv (run st ops) :=
  run_induction ops hI fun _ _ _ _ hI h => step_inv hI h

/-! ## the registries of config-player effects (`fx`) and of device-owned timers (`tm`) -/

structure FxTmInv (st : St) : Prop where
  fxOwned : ∀ e ∈ st.fx, up (st.modes e.owner) = true
  tmOwned : ∀ e ∈ st.tm, alive (st.modes e.owner) = true

theorem fxTmInv_init (cfg : Nat → Cfg) : FxTmInv (init cfg) := ⟨nofun, nofun⟩

theorem pred_upd (P : MState → Bool) {f : Nat → MState} {m : Nat} {x : MState} {l : List Ent}
    (h : ∀ e ∈ l, P (f e.owner) = true) (hm : (∀ e ∈ l, e.owner ≠ m) ∨ (P (f m) = true → P x = true)) :
    ∀ e ∈ l, P (upd f m x e.owner) = true := by
  intro e he
  by_cases ho : e.owner = m
  · rw [ho, upd_same]
    exact (hm.resolve_left fun hm => hm e he ho) (ho ▸ h e he)
  · rw [upd_other _ _ _ _ ho]
    exact h e he

theorem not_owned_of_filter (l : List Ent) (m : Nat) : ∀ e ∈ l.filter (fun e => !ownedBy m e), e.owner ≠ m := by
  intro e he ho
  simp [ownedBy, ho] at he

theorem cleanup_fxTmInv {st : St} (h2 : FxTmInv st) (m : Nat) : FxTmInv (cleanup st m) := by
  unfold cleanup
  split
  · exact ⟨pred_upd up h2.fxOwned (Or.inr id),
      pred_upd alive (fun e he => h2.tmOwned e (List.mem_filter.mp he).1) (Or.inl (not_owned_of_filter st.tm m))⟩
  · exact h2

theorem step_fxTmInv {st st' : St} {op : Op} (h2 : FxTmInv st) (h : step st op = some st') : FxTmInv st' := by
  apply step_cases h
  case same => exact fun _ => h2
  case start =>
    intro m p q _ _
    have c2 := cleanup_fxTmInv h2 m
    exact ⟨pred_upd up c2.fxOwned (Or.inr fun _ => rfl), pred_upd alive c2.tmOwned (Or.inr fun _ => rfl)⟩
  case started =>
    intro m _
    exact ⟨pred_upd up h2.fxOwned (Or.inr fun _ => rfl), pred_upd alive h2.tmOwned (Or.inr fun _ => rfl)⟩
  case startedCb | stop =>
    intros
    exact ⟨pred_upd up h2.fxOwned (Or.inr id), pred_upd alive h2.tmOwned (Or.inr id)⟩
  case stopped =>
    intro m _
    exact ⟨pred_upd up (fun e he => h2.fxOwned e (List.mem_filter.mp he).1) (Or.inl (not_owned_of_filter st.fx m)),
      pred_upd alive h2.tmOwned (Or.inr fun _ => Bool.or_true _)⟩
  case stoppedCb =>
    intro m _
    have c2 := cleanup_fxTmInv h2 m
    exact ⟨pred_upd up c2.fxOwned (Or.inr id), pred_upd alive c2.tmOwned (Or.inr id)⟩
  case cfgPlay =>
    intro m id ha
    exact ⟨List.forall_mem_append.mpr ⟨h2.fxOwned, List.forall_mem_singleton.mpr (by simp [up, ha])⟩, h2.tmOwned⟩
  case cfgSubOn =>
    intro m id hu
    exact ⟨List.forall_mem_append.mpr ⟨h2.fxOwned, List.forall_mem_singleton.mpr hu⟩, h2.tmOwned⟩
  case addTm =>
    intro m id ha
    exact ⟨h2.fxOwned, List.forall_mem_append.mpr ⟨h2.tmOwned, List.forall_mem_singleton.mpr ha⟩⟩
  case cfgSubOff => exact fun m id => ⟨fun e he => h2.fxOwned e (List.mem_filter.mp he).1, h2.tmOwned⟩
  case fireTm | remTm => exact fun m id => ⟨h2.fxOwned, fun e he => h2.tmOwned e (List.mem_filter.mp he).1⟩
  case addH | addSw | addDl | fireDl | turnEnd | ctlCall =>
    intros
    exact ⟨h2.fxOwned, h2.tmOwned⟩

theorem FxTmInv.idle_fx {st : St} (h2 : FxTmInv st) {m : Nat} (ha : (st.modes m).active = false)
    (hs : (st.modes m).starting = false) : ∀ e ∈ st.fx, e.owner ≠ m :=
  fun e he ho => by simpa [ho, up, ha, hs] using h2.fxOwned e he

theorem run_fxTmInv {st : St} (ops : List Op) (h2 : FxTmInv st) : FxTmInv (run st ops) :=
  run_induction ops h2 fun _ _ _ _ h2 h => step_fxTmInv h2 h

end MpfVerif.Mode
