import MpfVerif.Model.ShowToken
/-! C17: show-token substitution — total, capture-free, identity without tokens.  Every fact is one about a single
segment, carried through the `map`s (segments of a string, keys of a path, entries of a show). -/
namespace MpfVerif.ShowToken

theorem mem_flatten_map {α β : Type} {f : α → List β} {l : List α} {a : α} {b : β} (ha : a ∈ l) (hb : b ∈ f a) :
    b ∈ (l.map f).flatten :=
  List.mem_flatten.mpr ⟨_, List.mem_map.mpr ⟨a, ha, rfl⟩, hb⟩

theorem flatten_map_nil {α β : Type} {f : α → List β} {l : List α} (h : ∀ a ∈ l, f a = []) : (l.map f).flatten = [] :=
  List.flatten_eq_nil_iff.mpr fun _ hx => by obtain ⟨a, ha, rfl⟩ := List.mem_map.mp hx; exact h a ha

theorem substSeg_noTok (toks : Toks) (g : Seg) (h : ∀ n ∈ segToks g, (lookup toks n).isSome = true) :
    segToks (substSeg toks g) = [] := by
  cases g with
  | lit s => rfl
  | tok n =>
    have := h n (by simp [segToks])
    cases hl : lookup toks n with
    | none => rw [hl] at this; cases this
    | some r => simp only [substSeg, hl, segToks]

theorem substSegs_noTok (toks : Toks) (l : List Seg) (h : ∀ n ∈ segsToks l, (lookup toks n).isSome = true) :
    segsToks (substSegs toks l) = [] := by
  unfold segsToks substSegs
  rw [List.map_map]
  exact flatten_map_nil fun g hg => substSeg_noTok toks g fun n hn => h n (mem_flatten_map hg hn)

theorem subst_noTok (toks : Toks) (sh : List Entry) (h : ∀ n ∈ tokensOf sh, (lookup toks n).isSome = true) :
    tokensOf (subst toks sh) = [] := by
  unfold tokensOf subst
  rw [List.map_map]
  refine flatten_map_nil fun e he => ?_
  have he : ∀ n ∈ entryToks e, (lookup toks n).isSome = true := fun n hn => h n (mem_flatten_map he hn)
  show ((e.path.map (substSegs toks)).map segsToks).flatten ++ segsToks (substSegs toks e.val) = []
  rw [substSegs_noTok toks e.val fun n hn => he n (List.mem_append_right _ hn), List.append_nil, List.map_map]
  exact flatten_map_nil fun k hk => substSegs_noTok toks k fun n hn => he n (List.mem_append_left _ (mem_flatten_map hk hn))

theorem substSegs_congr (a b : Toks) (l : List Seg) (h : ∀ n ∈ segsToks l, lookup a n = lookup b n) :
    substSegs a l = substSegs b l := by
  refine List.map_congr_left fun g hg => ?_
  cases g with
  | lit s => rfl
  | tok n => simp only [substSeg, h n (mem_flatten_map hg (by simp [segToks]))]

theorem subst_congr (a b : Toks) (sh : List Entry) (h : ∀ n ∈ tokensOf sh, lookup a n = lookup b n) :
    subst a sh = subst b sh := by
  refine List.map_congr_left fun e he => ?_
  have he : ∀ n ∈ entryToks e, lookup a n = lookup b n := fun n hn => h n (mem_flatten_map he hn)
  unfold substEntry
  rw [substSegs_congr a b e.val fun n hn => he n (List.mem_append_right _ hn),
    List.map_congr_left fun k hk => substSegs_congr a b k fun n hn => he n (List.mem_append_left _ (mem_flatten_map hk hn))]

theorem substSegs_nil : substSegs [] = id :=
  funext fun l => List.map_id'' (fun g => by cases g <;> rfl) l

theorem subst_nil (sh : List Entry) : subst [] sh = sh :=
  List.map_id'' (fun e => by simp [substEntry, substSegs_nil]) sh

/-- the first token, then the others: a replacement value is literal text, which no later token touches -/
theorem substSegs_cons (nr : List Char × List Char) (rest : Toks) (l : List Seg) :
    substSegs (nr :: rest) l = substSegs rest (l.map (subst1Seg nr.1 nr.2)) := by
  unfold substSegs
  rw [List.map_map]
  refine List.map_congr_left fun g _ => ?_
  cases g with
  | lit s => rfl
  | tok m => by_cases h : nr.1 = m <;> simp [substSeg, subst1Seg, lookup, h]

theorem fold_vals (toks : Toks) : ∀ (sh : List Entry), toks.foldl (fun sh nr => vals1 nr.1 nr.2 sh) sh =
    sh.map (fun e => { e with val := substSegs toks e.val }) := by
  induction toks with
  | nil => intro sh; simp [substSegs_nil]
  | cons nr rest ih => intro sh; rw [List.foldl_cons, ih]; simp [vals1, substSegs_cons]

theorem fold_keys (toks : Toks) : ∀ (sh : List Entry), toks.foldl (fun sh nr => keys1 nr.1 nr.2 sh) sh =
    sh.map (fun e => { e with path := e.path.map (substSegs toks) }) := by
  induction toks with
  | nil => intro sh; simp [substSegs_nil]
  | cons nr rest ih => intro sh; rw [List.foldl_cons, ih]; simp [keys1, substSegs_cons]

theorem substSeq_eq (toks : Toks) (sh : List Entry) : substSeq toks sh = subst toks sh := by
  unfold substSeq
  rw [fold_vals, fold_keys, List.map_map]
  rfl

end MpfVerif.ShowToken
