import MpfVerif.Model.Rules
/-!
# Lemmas for C10: the table invariant `Inv`, and a disabled device stays disabled (`Off`)

Both are instances of `Stable`: a predicate kept by the few transitions every step is composed of is kept by `run`.
-/
namespace MpfVerif.Rules

/-- well-formed configuration: the rule keys (switch, coil) of all devices are pairwise distinct -/
structure WF (c : Cfg) : Prop where
  own : ∀ i, i < c.n → ((entriesOf (c.dev i)).map Entry.key).Nodup
  apart : ∀ i j, i < c.n → j < c.n → i ≠ j → ∀ e ∈ entriesOf (c.dev i), ∀ e' ∈ entriesOf (c.dev j), e.key ≠ e'.key

/-- the table invariant -/
structure Inv (c : Cfg) (s : St) : Prop where
  sound : ∀ e ∈ s.table, ∃ i, i < c.n ∧ (s.devs i).enabled = true ∧ e ∈ entriesOf (c.dev i)
  complete : ∀ i, i < c.n → (s.devs i).enabled = true → ∀ e ∈ entriesOf (c.dev i), e ∈ s.table
  nodup : (s.table.map Entry.key).Nodup
  auxSound : ∀ a ∈ s.aux, ∃ i, i < c.n ∧ (s.devs i).enabled = true ∧ a ∈ auxOf (c.dev i)

theorem of_ite {P : St → Prop} {p : Prop} [Decidable p] {a b : St} (ha : p → P a) (hb : P b) : P (if p then a else b) := by
  split
  · exact ha ‹p›
  · exact hb

/-- what `enable()` / `disable()` of device `i` leave alone once the rules are written or cleared -/
structure Frame (i : Nat) (s s' : St) : Prop where
  table : s'.table = s.table
  aux : s'.aux = s.aux
  other : ∀ j, j ≠ i → s'.devs j = s.devs j

/-- a change that neither `Inv` (which reads `enabled`) nor `Off` (`enabled`, `reDue`) can see -/
structure Local (i : Nat) (s s' : St) : Prop extends Frame i s s' where
  en : (s'.devs i).enabled = (s.devs i).enabled
  re : (s'.devs i).reDue = (s.devs i).reDue

/-- ... nor the coil invariant `InvOn` of Lemmas/RulesCoils.lean, which reads `on`, `swFlipped` and `repOn` -/
structure Quiet (i : Nat) (s s' : St) : Prop extends Local i s s' where
  on : s'.on = s.on
  sf : (s'.devs i).swFlipped = (s.devs i).swFlipped
  rep : (s'.devs i).repOn = (s.devs i).repOn

theorem Frame.trans {i : Nat} {a b d : St} (h1 : Frame i a b) (h2 : Frame i b d) : Frame i a d :=
  ⟨h2.table.trans h1.table, h2.aux.trans h1.aux, fun j hj => (h2.other j hj).trans (h1.other j hj)⟩

theorem Local.trans {i : Nat} {a b d : St} (h1 : Local i a b) (h2 : Local i b d) : Local i a d :=
  ⟨h1.toFrame.trans h2.toFrame, h2.en.trans h1.en, h2.re.trans h1.re⟩

theorem Quiet.pulse {i x : Nat} {s s' : St} (h : Quiet i s s') : Quiet i s (coilPulse s' x) :=
  ⟨⟨⟨h.table, h.aux, h.other⟩, h.en, h.re⟩, h.on, h.sf, h.rep⟩

theorem Local.of_devs {i : Nat} {s s' : St} (ht : s'.table = s.table) (ha : s'.aux = s.aux) (hd : s'.devs = s.devs) :
    Local i s s' :=
  ⟨⟨ht, ha, fun _ _ => by rw [hd]⟩, by rw [hd], by rw [hd]⟩

theorem Quiet.of_devs {i : Nat} {s s' : St} (ht : s'.table = s.table) (ha : s'.aux = s.aux) (ho : s'.on = s.on)
    (hd : s'.devs = s.devs) : Quiet i s s' :=
  ⟨Local.of_devs ht ha hd, ho, by rw [hd], by rw [hd]⟩

@[simp] theorem devs_upd_same (s : St) (i : Nat) (d : DSt) : (upd s i d).devs i = d := if_pos rfl
theorem devs_upd_other (s : St) (i : Nat) (d : DSt) {j : Nat} (h : j ≠ i) : (upd s i d).devs j = s.devs j := if_neg h

theorem frame_upd (s : St) (i : Nat) (d : DSt) : Frame i s (upd s i d) := ⟨rfl, rfl, fun _ hj => devs_upd_other s i d hj⟩

theorem local_upd (s : St) (i : Nat) {d : DSt} (he : d.enabled = (s.devs i).enabled) (hr : d.reDue = (s.devs i).reDue) :
    Local i s (upd s i d) :=
  ⟨frame_upd s i d, by rw [devs_upd_same, he], by rw [devs_upd_same, hr]⟩

theorem quiet_upd (s : St) (i : Nat) {d : DSt} (he : d.enabled = (s.devs i).enabled) (hr : d.reDue = (s.devs i).reDue)
    (hs : d.swFlipped = (s.devs i).swFlipped) (hp : d.repOn = (s.devs i).repOn) : Quiet i s (upd s i d) :=
  ⟨local_upd s i he hr, rfl, by rw [devs_upd_same, hs], by rw [devs_upd_same, hp]⟩

theorem local_swRelease (s : St) (i : Nat) (f : FCfg) : Local i s (swRelease s i f) := by
  have h := local_upd s i (d := { s.devs i with swFlipped := false }) rfl rfl
  unfold swRelease
  cases f.hold <;> exact h.trans (Local.of_devs rfl rfl rfl)

theorem local_swFlip (s : St) (i : Nat) (f : FCfg) : Local i s (swFlip s i f) := by
  have h := local_upd s i (d := { s.devs i with swFlipped := true }) rfl rfl
  refine of_ite (P := Local i s) (fun _ => ?_) (Local.of_devs rfl rfl rfl)
  cases f.hold <;> exact h.trans (Local.of_devs rfl rfl rfl)

theorem fswDev_cases {P : St → Prop} (c : Cfg) (s : St) (i w : Nat) (st : Bool)
    (hq : ∀ s', Quiet i s s' → P s')
    (hoff : ∀ f d, (c.dev i).kind = .flipper f → d.enabled = (s.devs i).enabled → d.reDue = (s.devs i).reDue →
      d.swFlipped = (s.devs i).swFlipped → P (coilOff (upd s i d) f.main))
    (hon : ∀ f d, (c.dev i).kind = .flipper f → d.enabled = (s.devs i).enabled → d.reDue = (s.devs i).reDue →
      d.swFlipped = (s.devs i).swFlipped → d.enabled = true → d.repOn = true → P (coilOn (upd s i d) f.main)) :
    P (fswDev c s i w st) := by
  have h0 : P s := hq s (Quiet.of_devs rfl rfl rfl rfl)
  -- `split` is slow on terms full of `DSt` records; after `cases` on a Boolean condition the conditional reduces by unfolding
  unfold fswDev
  cases hk : (c.dev i).kind with
  | autofire a => exact h0
  | flipper f =>
    dsimp only
    by_cases hw : w = 0
    · rw [if_pos hw]
      by_cases ha : (s.devs i).actOn = st
      · rw [if_pos ha]; exact h0
      · rw [if_neg ha]
        cases hl : ((s.devs i).enabled && hasManager f)
        · exact hq _ (quiet_upd s i rfl rfl rfl rfl)
        · cases st
          · exact hoff f _ hk rfl rfl rfl
          · exact hq _ (quiet_upd s i rfl rfl rfl rfl)
    · rw [if_neg hw]
      by_cases ha : (s.devs i).eosOn = st
      · rw [if_pos ha]; exact h0
      · rw [if_neg ha]
        cases hl : ((s.devs i).enabled && hasManager f)
        · exact hq _ (quiet_upd s i rfl rfl rfl rfl)
        · cases st
          · cases hb : ((s.devs i).button && (s.devs i).eosLong)
            · exact hq _ (quiet_upd s i rfl rfl rfl rfl)
            · cases f.hold with
              | none => exact hon f _ hk rfl rfl rfl (Bool.and_eq_true_iff.mp hl).1 rfl
              | some _ => exact hq _ (Quiet.pulse (quiet_upd s i rfl rfl rfl rfl))
          · by_cases he : f.eosMs = 0
            · rw [if_pos he]; exact hq _ (quiet_upd s i rfl rfl rfl rfl)
            · rw [if_neg he]; exact hq _ (quiet_upd s i rfl rfl rfl rfl)

theorem local_fswDev (c : Cfg) (s : St) (i w : Nat) (st : Bool) : Local i s (fswDev c s i w st) :=
  fswDev_cases c s i w st (fun _ h => h.toLocal)
    (fun _ _ _ he hr _ => (local_upd s i he hr).trans (Local.of_devs rfl rfl rfl))
    (fun _ _ _ he hr _ _ _ => (local_upd s i he hr).trans (Local.of_devs rfl rfl rfl))

theorem enableDev_cases {P : St → Prop} (c : Cfg) (s : St) (i : Nat)
    (hsame : (s.devs i).enabled = true → P s)
    (hinst : (s.devs i).enabled = false → installable (c.dev i) = true → ∀ d : DSt, d.enabled = true →
      P (upd (installRules s (c.dev i)) i d))
    (href : (s.devs i).enabled = false → installable (c.dev i) = false → P { s with refused := s.refused ++ [i] }) :
    P (enableDev c s i) := by
  unfold enableDev
  dsimp only
  cases he : (s.devs i).enabled
  · cases hin : installable (c.dev i)
    · exact href he hin
    · cases (c.dev i).kind <;> exact hinst he hin _ rfl
  · exact hsame he

theorem enableDev_other (c : Cfg) (s : St) (i : Nat) {j : Nat} (h : j ≠ i) : (enableDev c s i).devs j = s.devs j :=
  enableDev_cases (P := fun s' => s'.devs j = s.devs j) c s i (fun _ => rfl) (fun _ _ d _ => devs_upd_other _ i d h)
    (fun _ _ => rfl)

theorem enableDev_of_enabled {c : Cfg} {s : St} {i : Nat} (he : (s.devs i).enabled = true) : enableDev c s i = s :=
  enableDev_cases (P := (· = s)) c s i (fun _ => rfl) (fun h => nomatch he.symm.trans h) (fun h => nomatch he.symm.trans h)

theorem enableDev_idem (c : Cfg) (s : St) (i : Nat) :
    ∃ r, enableDev c (enableDev c s i) i = { enableDev c s i with refused := r } :=
  enableDev_cases (P := fun s₁ => ∃ r, enableDev c s₁ i = { s₁ with refused := r }) c s i
    (fun he => ⟨_, enableDev_of_enabled he⟩)
    (fun _ _ d hd => ⟨_, enableDev_of_enabled (by rw [devs_upd_same]; exact hd)⟩)
    (fun he hin => enableDev_cases (P := fun s₂ => ∃ r, s₂ = { s with refused := r }) c _ i
      (fun _ => ⟨_, rfl⟩) (fun _ h => nomatch hin.symm.trans h) (fun _ _ => ⟨_, rfl⟩))

theorem upd_eta (s : St) (i : Nat) : upd s i (s.devs i) = s := by
  unfold upd
  congr 1
  funext j
  split
  · rename_i h; rw [h]
  · rfl

theorem disableDev_cases {P : St → Prop} (c : Cfg) (s : St) (i : Nat)
    (hoff : (s.devs i).enabled = false → ∀ d : DSt, d.enabled = false →
      (∀ a, (c.dev i).kind = .autofire a → d.reDue = none) → P (upd s i d))
    (hon : (s.devs i).enabled = true → ∀ s₁ (d : DSt), Frame i (clearRules s (c.dev i)) s₁ → d.enabled = false →
      (∀ a, (c.dev i).kind = .autofire a → d.reDue = none) → P (upd s₁ i d)) :
    P (disableDev c s i) := by
  unfold disableDev
  dsimp only
  cases hk : (c.dev i).kind with
  | autofire a =>
    dsimp only
    cases he : (s.devs i).enabled
    · exact hoff he _ rfl (fun _ _ => rfl)
    · exact hon he _ _ ⟨rfl, rfl, fun _ hj => devs_upd_other s i _ hj⟩ rfl (fun _ _ => rfl)
  | flipper f =>
    dsimp only
    cases he : (s.devs i).enabled
    · have := hoff he _ he (fun _ h => nomatch hk.symm.trans h)
      rwa [upd_eta] at this
    · refine hon he _ _ ?_ rfl (fun _ h => nomatch hk.symm.trans h)
      have hc : ∀ s₁ x, Frame i s₁ (coilOff s₁ x) := fun _ _ => ⟨rfl, rfl, fun _ _ => rfl⟩
      cases (s.devs i).repOn <;> cases (s.devs i).swFlipped
      · exact frame_upd _ _ _
      · exact (frame_upd _ _ _).trans (local_swRelease _ _ _).toFrame
      · exact (hc _ _).trans (frame_upd _ _ _)
      · exact ((hc _ _).trans (frame_upd _ _ _)).trans (local_swRelease _ _ _).toFrame

theorem disableDev_other (c : Cfg) (s : St) (i : Nat) {j : Nat} (h : j ≠ i) : (disableDev c s i).devs j = s.devs j :=
  disableDev_cases (P := fun s' => s'.devs j = s.devs j) c s i (fun _ d _ _ => devs_upd_other s i d h)
    (fun _ s₁ d hf _ _ => (devs_upd_other s₁ i d h).trans (hf.other j h))

theorem forDevs_inv {P : St → Prop} {f : St → Nat → St} {n : Nat} (hf : ∀ s k, k < n → P s → P (f s k)) {s : St}
    (hs : P s) : P (forDevs f n s) := by
  suffices h : ∀ m, m ≤ n → P (forDevs f m s) from h n (Nat.le_refl n)
  intro m
  induction m with
  | zero => exact fun _ => hs
  | succ k ih => exact fun hk => hf _ k hk (ih (Nat.le_of_succ_le hk))

/-- can this request enable device `i`? -/
def enables (c : Cfg) (i : Nat) : Op → Bool
  | .enable j => j == i
  | .ev e => (c.dev i).enEv.contains e
  | .hit j =>
    match (c.dev j).kind with
    | .autofire a => (match a.fired with | some ev => (c.dev i).enEv.contains ev | none => false)
    | .flipper _ => false
  | _ => false

/-- `P` is kept by the transitions every step is composed of, `enable()` being called only for devices in `E` -/
structure Stable (c : Cfg) (E : Nat → Prop) (P : St → Prop) : Prop where
  quiet : ∀ {s s'} i, P s → Quiet i s s' → P s'
  swFlip : ∀ s i f, i < c.n → (c.dev i).kind = .flipper f → P s → P (swFlip s i f)
  swRelease : ∀ s i f, (c.dev i).kind = .flipper f → P s → P (swRelease s i f)
  fsw : ∀ s i w st, i < c.n → P s → P (fswDev c s i w st)
  enable : ∀ s i, i < c.n → E i → P s → P (enableDev c s i)
  disable : ∀ s i, i < c.n → P s → P (disableDev c s i)
  hit : ∀ s i a, i < c.n → (s.devs i).enabled = true → P s → P (hitCore c s i a)
  fireRe : ∀ s i a, i < c.n → (c.dev i).kind = .autofire a → P s → P (fireRe c s i)

namespace Stable
variable {c : Cfg} {E : Nat → Prop} {P : St → Prop} (h : Stable c E P) {s : St}
include h

/-- no device state changes: `quiet` at any index -/
theorem of_devs {s' : St} (hs : P s) (ht : s'.table = s.table) (ha : s'.aux = s.aux) (ho : s'.on = s.on)
    (hd : s'.devs = s.devs) : P s' :=
  h.quiet 0 hs (Quiet.of_devs ht ha ho hd)

theorem evStep {e : Nat} (hE : ∀ j, (c.dev j).enEv.contains e = true → E j) (hs : P s) : P (evStep c s e) :=
  forDevs_inv (fun s k hk hs => of_ite (fun he => h.enable s k hk (hE k he) hs) hs)
    (forDevs_inv (fun s k hk hs => of_ite (fun _ => h.disable s k hk hs) hs) hs)

theorem hitDev {i : Nat} (hi : i < c.n) (hE : ∀ j, enables c j (.hit i) = true → E j) (hs : P s) : P (hitDev c s i) := by
  unfold Rules.hitDev
  simp only [enables] at hE
  cases hk : (c.dev i).kind with
  | flipper f => exact hs
  | autofire a =>
    rw [hk] at hE
    dsimp only at hE ⊢
    cases hen : (s.devs i).enabled
    · exact hs
    · simp only [Bool.not_true, Bool.false_eq_true, if_false]
      have h1 := h.hit s i a hi hen hs
      cases hf : a.fired with
      | none => exact h1
      | some ev =>
        rw [hf] at hE
        dsimp only
        split
        · exact h.evStep hE h1
        · exact h1

theorem searchDev {i : Nat} (hi : i < c.n) (hs : P s) : P (searchDev c s i) := by
  unfold Rules.searchDev
  split
  · rename_i f hk
    exact h.quiet i (h.swFlip s i f hi hk hs) (quiet_upd _ i rfl rfl rfl rfl)
  · exact h.quiet i hs (Quiet.pulse (quiet_upd s i rfl rfl rfl rfl))

theorem fireDev {i : Nat} (hi : i < c.n) (hs : P s) : P (fireDev c s i) := by
  unfold Rules.fireDev
  split
  · rename_i f hk
    have h1 : P (fireRel s i f) :=
      of_ite (fun _ => h.swRelease _ i f hk (h.quiet i hs (quiet_upd s i rfl rfl rfl rfl))) hs
    exact of_ite (fun _ => h.quiet i h1 (quiet_upd _ i rfl rfl rfl rfl)) h1
  · rename_i a hk
    have h1 := h.fireRe s i a hi hk hs
    exact of_ite (fun _ => h.quiet i h1 (quiet_upd _ i rfl rfl rfl rfl)) h1

theorem fireAll (hs : P s) : P (fireAll c s) := forDevs_inv (fun _ _ hk hs => h.fireDev hk hs) hs

theorem doOp {op : Op} (hE : ∀ j, enables c j op = true → E j) (hs : P s) : P (doOp c s op) := by
  cases op with
  | enable i => exact of_ite (fun hi => h.enable s i hi (hE i (beq_self_eq_true i)) hs) hs
  | disable i => exact of_ite (fun hi => h.disable s i hi hs) hs
  | swFlip i =>
    refine of_ite (fun hi => ?_) hs
    split
    · rename_i f hk; exact h.swFlip s i f hi hk hs
    · exact hs
  | swRelease i =>
    refine of_ite (fun hi => ?_) hs
    split
    · rename_i f hk; exact h.swRelease s i f hk hs
    · exact hs
  | search i => exact of_ite (fun hi => h.searchDev hi hs) hs
  | fsw i w st => exact of_ite (fun hi => h.fsw s i w st hi hs) hs
  | hit i => exact of_ite (fun hi => h.hitDev hi hE hs) hs
  | ev e => exact h.evStep hE hs
  | advance dt => exact h.of_devs hs rfl rfl rfl rfl
  | setting v => exact h.of_devs hs rfl rfl rfl rfl

theorem step {op : Op} (hE : ∀ j, enables c j op = true → E j) (hs : P s) : P (step c s op) :=
  h.fireAll (h.doOp hE (h.of_devs hs rfl rfl rfl rfl))

theorem run {ops : List Op} (hE : ∀ op ∈ ops, ∀ j, enables c j op = true → E j) (hs : P s) : P (run c s ops) := by
  induction ops generalizing s with
  | nil => exact hs
  | cons op rest ih =>
    exact ih (fun o ho => hE o (List.mem_cons_of_mem _ ho)) (h.step (hE op (List.mem_cons_self ..)) hs)

end Stable

/-- all that `Inv` reads -/
structure Same (s s' : St) : Prop where
  table : s'.table = s.table
  aux : s'.aux = s.aux
  en : ∀ j, (s'.devs j).enabled = (s.devs j).enabled

theorem owned_of {α : Type} {c : Cfg} {s s' : St} {F : Dev → List α} {l : List α} {x : α}
    (h : ∀ x ∈ l, ∃ i, i < c.n ∧ (s.devs i).enabled = true ∧ x ∈ F (c.dev i)) (hx : x ∈ l)
    (hen : ∀ i, i < c.n → x ∈ F (c.dev i) → (s.devs i).enabled = true → (s'.devs i).enabled = true) :
    ∃ i, i < c.n ∧ (s'.devs i).enabled = true ∧ x ∈ F (c.dev i) :=
  let ⟨i, hi, he, hm⟩ := h x hx
  ⟨i, hi, hen i hi hm he, hm⟩

theorem Inv.of_same {c : Cfg} {s s' : St} (h : Same s s') (hi : Inv c s) : Inv c s' := by
  refine ⟨fun e he => owned_of hi.sound (h.table ▸ he) fun i _ _ hen => (h.en i).trans hen, ?_, h.table ▸ hi.nodup,
    fun a ha => owned_of hi.auxSound (h.aux ▸ ha) fun i _ _ hen => (h.en i).trans hen⟩
  intro i hi1 hi2 e he
  rw [h.table]
  exact hi.complete i hi1 ((h.en i).symm.trans hi2) e he

theorem same_upd (s : St) (i : Nat) (d : DSt) (h : d.enabled = (s.devs i).enabled) : Same s (upd s i d) := by
  refine ⟨rfl, rfl, fun j => ?_⟩
  by_cases hj : j = i
  · rw [hj, devs_upd_same, h]
  · rw [devs_upd_other s i d hj]

theorem Local.same {i : Nat} {s s' : St} (h : Local i s s') : Same s s' := by
  refine ⟨h.table, h.aux, fun j => ?_⟩
  by_cases hj : j = i
  · rw [hj, h.en]
  · rw [h.other j hj]

theorem mem_clear_table (s : St) (d : Dev) (e : Entry) :
    e ∈ (clearRules s d).table ↔ e ∈ s.table ∧ e.key ∉ (entriesOf d).map Entry.key := by
  simp [clearRules, hasKey, List.mem_filter]

theorem mem_clear_aux (s : St) (d : Dev) (a : Aux) :
    a ∈ (clearRules s d).aux ↔ a ∈ s.aux ∧ a ∉ auxOf d := by
  simp [clearRules, List.mem_filter]

theorem clear_devs (s : St) (d : Dev) : (clearRules s d).devs = s.devs := rfl

theorem inv_clear {c : Cfg} (hw : WF c) {s s' : St} {i : Nat} (hi : i < c.n) (h : Inv c s)
    (hf : Frame i (clearRules s (c.dev i)) s') (hoff : (s'.devs i).enabled = false) : Inv c s' := by
  have hoth : ∀ j, j ≠ i → (s'.devs j).enabled = (s.devs j).enabled := fun j hj => by rw [hf.other j hj, clear_devs]
  refine ⟨?_, ?_, ?_, ?_⟩
  · intro e he
    rw [hf.table, mem_clear_table] at he
    exact owned_of h.sound he.1 fun j _ hm hj =>
      (hoth j fun hji => he.2 (List.mem_map_of_mem (hji ▸ hm))).trans hj
  · intro j hj1 hj2 e he
    have hne : j ≠ i := fun hji => Bool.noConfusion ((hji ▸ hoff).symm.trans hj2)
    rw [hf.table, mem_clear_table]
    refine ⟨h.complete j hj1 ((hoth j hne).symm.trans hj2) e he, fun hk => ?_⟩
    obtain ⟨e', he', hkey⟩ := List.mem_map.mp hk
    exact hw.apart j i hj1 hi hne e he e' he' hkey.symm
  · rw [hf.table]
    exact List.Nodup.sublist (List.Sublist.map _ List.filter_sublist) h.nodup
  · intro a ha
    rw [hf.aux, mem_clear_aux] at ha
    exact owned_of h.auxSound ha.1 fun j _ hm hj => (hoth j fun hji => ha.2 (hji ▸ hm)).trans hj

theorem inv_install {c : Cfg} (hw : WF c) {s s' : St} {i : Nat} (hi : i < c.n) (h : Inv c s)
    (hdis : (s.devs i).enabled = false) (hf : Frame i (installRules s (c.dev i)) s')
    (hon : (s'.devs i).enabled = true) : Inv c s' := by
  have ht : s'.table = s.table ++ entriesOf (c.dev i) := hf.table
  have ha : s'.aux = s.aux ++ auxOf (c.dev i) := hf.aux
  have hen : ∀ j, (s.devs j).enabled = true → (s'.devs j).enabled = true := fun j hj => by
    by_cases hji : j = i
    · exact hji ▸ hon
    · exact (congrArg DSt.enabled (hf.other j hji)).trans hj
  refine ⟨?_, ?_, ?_, ?_⟩
  · intro e he
    rw [ht, List.mem_append] at he
    exact he.elim (fun he => owned_of h.sound he fun j _ _ => hen j) fun he => ⟨i, hi, hon, he⟩
  · intro j hj1 hj2 e he
    rw [ht, List.mem_append]
    by_cases hji : j = i
    · subst hji; exact Or.inr he
    · rw [hf.other j hji] at hj2
      exact Or.inl (h.complete j hj1 hj2 e he)
  · rw [ht, List.map_append, List.nodup_append]
    refine ⟨h.nodup, hw.own i hi, fun k hk k' hk' hkk => ?_⟩
    obtain ⟨e, he, rfl⟩ := List.mem_map.mp hk
    obtain ⟨e', he', rfl⟩ := List.mem_map.mp hk'
    obtain ⟨j, hj1, hj2, hj3⟩ := h.sound e he
    have hne : j ≠ i := fun hji => Bool.noConfusion ((hji ▸ hdis).symm.trans hj2)
    exact hw.apart j i hj1 hi hne e hj3 e' he' hkk
  · intro a ha'
    rw [ha, List.mem_append] at ha'
    exact ha'.elim (fun ha' => owned_of h.auxSound ha' fun j _ _ => hen j) fun ha' => ⟨i, hi, hon, ha'⟩

theorem inv_enableDev {c : Cfg} (hw : WF c) (s : St) (i : Nat) (hi : i < c.n) (h : Inv c s) : Inv c (enableDev c s i) :=
  enableDev_cases c s i (fun _ => h)
    (fun hdis _ d hd => inv_install hw hi h hdis (frame_upd _ i d) (by rw [devs_upd_same, hd]))
    (fun _ _ => Inv.of_same (s := s) ⟨rfl, rfl, fun _ => rfl⟩ h)

theorem inv_disableDev {c : Cfg} (hw : WF c) (s : St) (i : Nat) (hi : i < c.n) (h : Inv c s) : Inv c (disableDev c s i) :=
  disableDev_cases c s i (fun hen d hd _ => Inv.of_same (same_upd s i d (hd.trans hen.symm)) h)
    (fun _ s₁ d hf hd _ => inv_clear hw hi h (hf.trans (frame_upd s₁ i d)) (by rw [devs_upd_same, hd]))

theorem inv_stable {c : Cfg} (hw : WF c) : Stable c (fun _ => True) (Inv c) where
  quiet _ h hq := Inv.of_same hq.same h
  swFlip s i f _ _ := Inv.of_same (local_swFlip s i f).same
  swRelease s i f _ := Inv.of_same (local_swRelease s i f).same
  fsw s i w st _ := Inv.of_same (local_fswDev c s i w st).same
  enable s i hi _ := inv_enableDev hw s i hi
  disable := inv_disableDev hw
  hit s i _ hi _ h :=
    have h0 : ∀ hs, Inv c (upd s i { s.devs i with hits := hs }) := fun _ => Inv.of_same (same_upd _ _ _ rfl) h
    of_ite (fun _ => of_ite (fun _ => Inv.of_same (same_upd _ _ _ rfl) (inv_disableDev hw _ i hi (h0 _))) (h0 _)) h
  fireRe _ i _ hi _ h := of_ite (fun _ => inv_enableDev hw _ i hi (Inv.of_same (same_upd _ _ _ rfl) h)) h

theorem inv_run {c : Cfg} (hw : WF c) (ops : List Op) (s : St) (h : Inv c s) : Inv c (run c s ops) :=
  (inv_stable hw).run (fun _ _ _ _ => trivial) h

theorem inv_init (c : Cfg) : Inv c init :=
  ⟨fun _ he => absurd he List.not_mem_nil, fun _ _ hi => Bool.noConfusion hi, List.nodup_nil,
   fun _ ha => absurd ha List.not_mem_nil⟩

theorem Inv.empty_of_off {c : Cfg} {s : St} (h : Inv c s) (hoff : ∀ i, i < c.n → (s.devs i).enabled = false) :
    s.table = [] ∧ s.aux = [] := by
  constructor <;> apply List.eq_nil_iff_forall_not_mem.mpr <;> intro x hx
  · obtain ⟨i, hi, hen, _⟩ := h.sound x hx
    exact Bool.noConfusion ((hoff i hi).symm.trans hen)
  · obtain ⟨i, hi, hen, _⟩ := h.auxSound x hx
    exact Bool.noConfusion ((hoff i hi).symm.trans hen)

/-- device `i` is disabled and (autofire) has no re-enable delay pending -/
def Off (c : Cfg) (s : St) (i : Nat) : Prop :=
  (s.devs i).enabled = false ∧ ∀ a, (c.dev i).kind = .autofire a → (s.devs i).reDue = none

theorem off_of_devs {c : Cfg} {s s' : St} {i : Nat} (h : s'.devs i = s.devs i) (ho : Off c s i) : Off c s' i := by
  unfold Off at *
  rw [h]; exact ho

theorem Off.of_local {c : Cfg} {s s' : St} {i k : Nat} (h : Local i s s') (ho : Off c s k) : Off c s' k := by
  by_cases hk : k = i
  · subst hk
    exact ⟨h.en.trans ho.1, fun a ha => h.re.trans (ho.2 a ha)⟩
  · exact off_of_devs (h.other k hk) ho

theorem off_disableDev_self (c : Cfg) (s : St) (i : Nat) : Off c (disableDev c s i) i :=
  have key : ∀ (s₁ : St) (d : DSt), d.enabled = false → (∀ a, (c.dev i).kind = .autofire a → d.reDue = none) →
      Off c (upd s₁ i d) i := fun s₁ d hd hr => by
    unfold Off
    rw [devs_upd_same]
    exact ⟨hd, hr⟩
  disableDev_cases (P := fun s' => Off c s' i) c s i (fun _ => key s) (fun _ s₁ d _ => key s₁ d)

theorem off_disableDev (c : Cfg) (s : St) (i j : Nat) (ho : Off c s i) : Off c (disableDev c s j) i := by
  by_cases h : i = j
  · subst h; exact off_disableDev_self c s i
  · exact off_of_devs (disableDev_other c s j h) ho

theorem disableDev_of_off {c : Cfg} {s : St} {i : Nat} (ho : Off c s i) : disableDev c s i = s := by
  have hen : ¬ (s.devs i).enabled = true := by rw [ho.1]; exact Bool.false_ne_true
  unfold disableDev
  dsimp only
  cases hk : (c.dev i).kind with
  | flipper f => exact if_neg hen
  | autofire a =>
    dsimp only
    rw [if_neg hen]
    have hd : { s.devs i with reDue := none } = s.devs i := by
      have hre := ho.2 a hk
      revert hre
      cases s.devs i
      intro hre; cases hre; rfl
    rw [hd, upd_eta]

theorem hitCore_other (c : Cfg) (s : St) (i : Nat) (a : ACfg) {j : Nat} (h : j ≠ i) : (hitCore c s i a).devs j = s.devs j := by
  have h0 : ∀ hs, (upd s i { s.devs i with hits := hs }).devs j = s.devs j := fun _ => devs_upd_other _ _ _ h
  refine of_ite (P := (·.devs j = s.devs j)) (fun _ => of_ite (P := (·.devs j = s.devs j)) (fun _ => ?_) (h0 _)) rfl
  rw [devs_upd_other _ _ _ h, disableDev_other c _ i h, h0]

theorem off_stable (c : Cfg) (k : Nat) : Stable c (· ≠ k) (fun s => Off c s k) where
  quiet _ ho hq := Off.of_local hq.toLocal ho
  swFlip s i f _ _ := Off.of_local (local_swFlip s i f)
  swRelease s i f _ := Off.of_local (local_swRelease s i f)
  fsw s i w st _ := Off.of_local (local_fswDev c s i w st)
  enable s i _ hik := off_of_devs (enableDev_other c s i hik.symm)
  disable s i _ := off_disableDev c s k i
  hit s i a _ hen ho :=
    have hki : k ≠ i := fun h => by rw [← h, ho.1] at hen; exact Bool.noConfusion hen
    off_of_devs (hitCore_other c s i a hki) ho
  fireRe s i a _ hk ho := by
    refine of_ite (P := fun s => Off c s k) (fun hdue => ?_) ho
    by_cases hki : k = i
    · subst hki
      rw [ho.2 a hk] at hdue
      exact Bool.noConfusion hdue
    · exact off_of_devs (by rw [enableDev_other c _ i hki, devs_upd_other _ _ _ hki]) ho

theorem off_run (c : Cfg) (i : Nat) (ops : List Op) (hq : ∀ op ∈ ops, enables c i op = false) (s : St) (h : Off c s i) :
    Off c (run c s ops) i :=
  (off_stable c i).run (fun op ho j hj hji => by rw [hji, hq op ho] at hj; exact Bool.noConfusion hj) h

theorem off_all_evStep (c : Cfg) (s : St) (e : Nat) (hd : ∀ i, i < c.n → (c.dev i).disEv.contains e = true)
    (hn : ∀ i, i < c.n → (c.dev i).enEv.contains e = false) : ∀ i, i < c.n → Off c (evStep c s e) i := by
  intro i hi
  unfold evStep
  refine forDevs_inv (P := fun s => Off c s i) (fun s k hk ho => by simp only [hn k hk]; exact ho) ?_
  suffices h : ∀ m, m ≤ c.n → ∀ j, j < m →
      Off c (forDevs (fun s i => if (c.dev i).disEv.contains e then disableDev c s i else s) m s) j from
    h c.n (Nat.le_refl _) i hi
  intro m
  induction m with
  | zero => exact fun _ j hj => absurd hj (Nat.not_lt_zero j)
  | succ k ih =>
    intro hk j hj
    simp only [forDevs, hd k hk, if_true]
    by_cases hjk : j = k
    · subst hjk; exact off_disableDev_self c _ j
    · exact off_disableDev c _ j k (ih (Nat.le_of_succ_le hk) j (Nat.lt_of_le_of_ne (Nat.le_of_lt_succ hj) hjk))

end MpfVerif.Rules
