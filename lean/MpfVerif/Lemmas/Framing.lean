import MpfVerif.Model.Framing
import MpfVerif.Lemmas.Ite
/-! In this order: the generic `feed`; the OPP automaton on whole tokens and the simulation of `_parse_msg` by it
(`IterOk`, `iter_spec`, `parseChunks_sim`); FAST switch reports (`swRun_get`); idle bytes settle the automaton
(`eoms_settle`); the FAST writer (`wRun_fifo`, `WInv`); CRC-8 (`sh`, `crc8Table_eq` onwards). -/
namespace MpfVerif.Framing

theorem feed_cons {σ α : Type} (step : σ → Nat → σ × List α) (s : σ) (b : Nat) (r : Bytes) :
    feed step s (b :: r) = ((feed step (step s b).1 r).1, (step s b).2 ++ (feed step (step s b).1 r).2) := rfl

theorem feed_append {σ α : Type} (step : σ → Nat → σ × List α) (s : σ) (a b : Bytes) :
    feed step s (a ++ b)
      = ((feed step (feed step s a).1 b).1, (feed step s a).2 ++ (feed step (feed step s a).1 b).2) := by
  induction a generalizing s with
  | nil => simp [feed]
  | cons x xs ih =>
    simp only [List.cons_append, feed]
    rw [ih]
    simp [List.append_assoc]

theorem feedChunks_eq_feed {σ α : Type} (step : σ → Nat → σ × List α) (s : σ) (cs : List Bytes) :
    feedChunks step s cs = feed step s cs.flatten := by
  induction cs generalizing s with
  | nil => simp [feedChunks, feed]
  | cons c r ih =>
    simp only [feedChunks, List.flatten_cons]
    rw [feed_append, ih]

theorem feedChunks_flatten {σ α : Type} (step : σ → Nat → σ × List α) (s : σ) (c1 c2 : List Bytes)
    (h : c1.flatten = c2.flatten) : feedChunks step s c1 = feedChunks step s c2 := by
  rw [feedChunks_eq_feed, feedChunks_eq_feed, h]

theorem run_lost_drop (buf : Bytes) :
    feed aStep .lost buf = feed aStep (modeOf (dropToAddr buf).isEmpty) (dropToAddr buf) := by
  induction buf with
  | nil => rfl
  | cons b t ih =>
    by_cases h : isAddr b = true
    · simp [dropToAddr, h, modeOf, feed, aStep]
    · have h' : isAddr b = false := by simpa using h
      simp only [dropToAddr, h', Bool.false_eq_true, if_false]
      rw [← ih, feed_cons]
      simp [aStep, h']

theorem run_body (xs : Bytes) : ∀ (acc : Bytes) (n : Nat) (rest : Bytes), xs.length = n → 1 ≤ n →
    feed aStep (.body acc n) (xs ++ rest)
      = ((feed aStep .idle rest).1, (acc ++ xs) :: (feed aStep .idle rest).2) := by
  induction xs with
  | nil => intro acc n rest h1 h2; simp at h1; omega
  | cons x t ih =>
    intro acc n rest h1 h2
    simp only [List.cons_append]
    rw [feed_cons]
    cases t with
    | nil =>
      have : n ≤ 1 := by simp at h1; omega
      simp [aStep, this]
    | cons y ys =>
      have hn : ¬ n ≤ 1 := by simp at h1; omega
      simp only [aStep, hn, if_false]
      rw [ih (acc ++ [x]) (n - 1) rest (by simp at h1 ⊢; omega) (by simp at h1; omega)]
      simp

/-- `READ_GEN2_INP_CMD` (7-byte frame) and `READ_MATRIX_INP` (11-byte frame): command byte, bytes after it -/
def IsFrame (c n : Nat) : Prop := (c = CMD_INP ∧ n = 5) ∨ (c = CMD_MTX ∧ n = 9)

theorem aStep_hdr (a c n : Nat) (h : IsFrame c n) : aStep (.hdr a) c = (.body [a, c] n, []) := by
  rcases h with ⟨rfl, rfl⟩ | ⟨rfl, rfl⟩ <;> rfl

theorem aStep_addr (l : Bool) (a : Nat) (ha : isAddr a = true) : aStep (modeOf l) a = (.hdr a, []) := by
  cases l <;> simp [modeOf, aStep, ha]

theorem frame_from_rest (l : Bool) (a c n : Nat) (p : Bytes) (ha : isAddr a = true) (hc : IsFrame c n)
    (hp : p.length = n) : feed aStep (modeOf l) (a :: c :: p) = (.idle, [a :: c :: p]) := by
  have := run_body p [a, c] n [] hp (by rcases hc with ⟨_, rfl⟩ | ⟨_, rfl⟩ <;> omega)
  rw [List.append_nil] at this
  rw [feed_cons, aStep_addr l a ha, feed_cons, aStep_hdr a c n hc, this]
  rfl

/-- bytes the automaton has to read before it can complete a frame -/
def need : AMode → Nat
  | .idle | .lost => 7
  | .hdr _ => 6
  | .body _ n => n

theorem need_modeOf (l : Bool) : need (modeOf l) = 7 := by cases l <;> rfl

theorem quiet_short (l : Bytes) : ∀ m, l.length < need m → (feed aStep m l).2 = [] := by
  induction l with
  | nil => intro m _; rfl
  | cons b t ih =>
    intro m h
    simp only [List.length_cons] at h
    have step : (aStep m b).2 = [] ∧ need m ≤ need (aStep m b).1 + 1 := by
      cases m with
      | body acc n =>
        have hn : ¬ n ≤ 1 := by simp only [need] at h; omega
        simp only [aStep, hn, if_false, need, true_and]
        omega
      -- `idle`, `lost`, `hdr`: whichever branch `aStep` takes, it emits nothing and the next mode needs at most one byte less
      | _ => simp only [aStep]; split <;> (try split) <;> exact ⟨rfl, by simp [need]⟩
    rw [feed_cons, step.1, List.nil_append]
    exact ih _ (by omega)

/-- the carried state is quiet (invariant of `_parse_msg` between calls) -/
def Quiet (s : PSt) : Prop := (feed aStep (modeOf s.lost) s.buf).2 = []

theorem quiet_iff (s : PSt) : Quiet s ↔ feed aStep (modeOf s.lost) s.buf = (absSt s, []) :=
  ⟨fun h => Prod.ext rfl h, fun h => congrArg Prod.snd h⟩

/-- bounds the iterations of the loop: the inner lost-synch loop may consume nothing but then clears the flag -/
def loopMeasure (s : PSt) : Nat := 2 * s.buf.length + (if s.lost then 1 else 0)

/-- an iteration of the loop of `_parse_msg` leaves what the automaton makes of the carried bytes unchanged and lowers
`loopMeasure`; when the loop ends the carried bytes hold no complete frame -/
def IterOk (s : PSt) : Option (PSt × List Bytes) → Prop
  | some (s1, o) =>
    feed aStep (modeOf s.lost) s.buf
      = ((feed aStep (modeOf s1.lost) s1.buf).1, o ++ (feed aStep (modeOf s1.lost) s1.buf).2) ∧
    loopMeasure s1 < loopMeasure s
  | none => Quiet s

theorem iter_prefix (l l1 : Bool) (pre r : Bytes) (o : List Bytes) (h : feed aStep (modeOf l) pre = (modeOf l1, o))
    (hp : pre ≠ []) : IterOk ⟨pre ++ r, l⟩ (some (⟨r, l1⟩, o)) := by
  refine ⟨by rw [feed_append, h], ?_⟩
  have : (if l1 = true then 1 else 0) ≤ 1 := by split <;> omega
  cases pre with
  | nil => exact absurd rfl hp
  | cons x t => simp only [loopMeasure, List.cons_append, List.length_cons, List.length_append]; omega

theorem frame_spec (a c n : Nat) (rest : Bytes) (ha : isAddr a = true) (hc : IsFrame c n) :
    IterOk ⟨a :: c :: rest, false⟩
      (if n + 2 ≤ (a :: c :: rest).length
       then some (⟨rest.drop n, false⟩, [a :: c :: rest.take n]) else none) := by
  by_cases hn : n + 2 ≤ (a :: c :: rest).length
  · rw [if_pos hn]
    have := iter_prefix false false _ (rest.drop n) _
      (frame_from_rest false a c n (rest.take n) ha hc (by simp at hn ⊢; omega)) (List.cons_ne_nil _ _)
    rwa [List.cons_append, List.cons_append, List.take_append_drop] at this
  · rw [if_neg hn]
    show (feed aStep (modeOf false) (a :: c :: rest)).2 = []
    rw [feed_cons, aStep_addr false a ha, feed_cons, aStep_hdr a c n hc]
    exact quiet_short rest _ (by simp at hn; exact hn)

theorem dropToAddr_length (b : Bytes) : (dropToAddr b).length ≤ b.length := by
  induction b with
  | nil => simp [dropToAddr]
  | cons x t ih =>
    unfold dropToAddr
    split
    · simp
    · simp; omega

theorem iter_spec (s : PSt) : IterOk s (iter s) := by
  obtain ⟨buf, lost⟩ := s
  unfold iter
  by_cases hlen : buf.length ≤ 2
  · rw [if_pos hlen]
    exact quiet_short buf _ (by rw [need_modeOf]; omega)
  rw [if_neg hlen]
  cases lost with
  | true =>
    rw [if_pos rfl]
    refine ⟨run_lost_drop buf, ?_⟩
    have := dropToAddr_length buf
    cases hd : dropToAddr buf with
    | nil => simp [loopMeasure]; omega
    | cons x t => rw [hd] at this; simp [loopMeasure] at this ⊢; omega
  | false =>
    rw [if_neg Bool.false_ne_true]
    match buf, hlen with
    | a :: c :: rest, _ =>
      dsimp only
      by_cases ha : isAddr a = true
      · rw [if_pos ha]
        by_cases hc : c = CMD_INP
        · subst hc
          rw [if_pos rfl]
          exact frame_spec a _ 5 rest ha (Or.inl ⟨rfl, rfl⟩)
        rw [if_neg hc]
        by_cases hm : c = CMD_MTX
        · subst hm
          rw [if_pos rfl]
          exact frame_spec a _ 9 rest ha (Or.inr ⟨rfl, rfl⟩)
        rw [if_neg hm]
        exact iter_prefix false true [a, c] rest [] (by simp [feed, aStep, ha, hc, hm, modeOf]) (List.cons_ne_nil _ _)
      · rw [if_neg ha]
        by_cases he : a = EOM
        · rw [if_pos he, he]
          exact iter_prefix false false [EOM] (c :: rest) [] (by decide) (List.cons_ne_nil _ _)
        · rw [if_neg he]
          exact iter_prefix false true [a] (c :: rest) [] (by simp_all [feed, aStep, modeOf]) (List.cons_ne_nil _ _)
    | [], hlen => simp at hlen
    | [_], hlen => simp at hlen

theorem quiet_of_iter_none (s : PSt) (h : iter s = none) : Quiet s := by
  have := iter_spec s
  rwa [h] at this

theorem parseLoop_spec (f : Nat) : ∀ s : PSt, loopMeasure s < f →
    feed aStep (modeOf s.lost) s.buf = (absSt (parseLoop f s).1, (parseLoop f s).2) ∧ iter (parseLoop f s).1 = none := by
  induction f with
  | zero => intro s h; omega
  | succ n ih =>
    intro s h
    have spec := iter_spec s
    unfold parseLoop
    cases hi : iter s with
    | none => exact ⟨(quiet_iff s).mp (quiet_of_iter_none s hi), hi⟩
    | some p =>
      rw [hi] at spec
      obtain ⟨h1, h2⟩ := ih p.1 (by have := spec.2; omega)
      exact ⟨by rw [spec.1, h1], h2⟩

theorem parseChunk_fuel (s : PSt) (c : Bytes) :
    loopMeasure { s with buf := s.buf ++ c } < 2 * (s.buf ++ c).length + 2 := by
  simp only [loopMeasure]; split <;> omega

theorem parseChunk_sim (s : PSt) (c : Bytes) (hq : Quiet s) :
    feed aStep (absSt s) c = (absSt (parseChunk s c).1, (parseChunk s c).2) ∧ Quiet (parseChunk s c).1 := by
  obtain ⟨h1, h2⟩ := parseLoop_spec _ { s with buf := s.buf ++ c } (parseChunk_fuel s c)
  refine ⟨?_, quiet_of_iter_none _ h2⟩
  rw [feed_append, (quiet_iff s).mp hq] at h1
  exact h1

theorem parseChunks_sim (cs : List Bytes) : ∀ s : PSt, Quiet s →
    feed aStep (absSt s) cs.flatten = (absSt (parseChunks s cs).1, (parseChunks s cs).2) ∧
    Quiet (parseChunks s cs).1 := by
  induction cs with
  | nil => intro s hq; exact ⟨by simp [parseChunks, feed], hq⟩
  | cons c r ih =>
    intro s hq
    obtain ⟨h1, hq1⟩ := parseChunk_sim s c hq
    obtain ⟨h2, hq2⟩ := ih _ hq1
    simp only [List.flatten_cons, parseChunks]
    rw [feed_append, h1]
    simp only
    rw [h2]
    exact ⟨rfl, hq2⟩

theorem updSw_follows : ∀ (old new sw : List Bool), old.length = new.length → sw = old.map (!·) →
    updSw old new sw = new.map (!·) := by
  intro old
  induction old with
  | nil => intro new sw hl _; cases new <;> simp_all [updSw]
  | cons o os ih =>
    intro new sw hl hs
    cases new with
    | nil => simp at hl
    | cons n ns =>
      subst hs
      simp only [List.map_cons, updSw]
      rw [ih ns _ (by simpa using hl) rfl]
      cases o <;> cases n <;> simp

theorem setAt_eq_set (l : List Bool) (n : Nat) (v : Bool) : setAt l n v = l.set n v := by
  induction l generalizing n with
  | nil => rfl
  | cons x r ih => cases n <;> simp [setAt, ih]

theorem setAt_get (l : List Bool) (n : Nat) (v : Bool) (h : n < l.length) : (setAt l n v)[n]? = some v := by
  rw [setAt_eq_set]; exact List.getElem?_set_self h

theorem setAt_other (l : List Bool) (n m : Nat) (v : Bool) (h : m ≠ n) : (setAt l n v)[m]? = l[m]? := by
  rw [setAt_eq_set]; exact List.getElem?_set_ne (Ne.symm h)

theorem snapAt_none (cfg inv bits : List Bool) (n : Nat) (h : cfg[n]? = none ∨ inv[n]? = none ∨ bits[n]? = none) :
    snapAt cfg inv bits n = id := by
  funext cur
  unfold snapAt
  split
  · simp_all
  · rfl

theorem snapUpd_get : ∀ (cfg inv bits l : List Bool) (n : Nat),
    (snapUpd cfg inv bits l)[n]? = (l[n]?).map (snapAt cfg inv bits n)
  | [], _, _, l, n => by rw [snapAt_none _ _ _ n (Or.inl rfl), Option.map_id]; rfl
  | _ :: _, [], _, l, n => by rw [snapAt_none _ _ _ n (Or.inr (Or.inl rfl)), Option.map_id]; rfl
  | _ :: _, _ :: _, [], l, n => by rw [snapAt_none _ _ _ n (Or.inr (Or.inr rfl)), Option.map_id]; rfl
  | _ :: _, _ :: _, _ :: _, [], n => rfl
  | c :: cs, i :: is, b :: bs, x :: r, 0 => by cases c <;> rfl
  | c :: cs, i :: is, b :: bs, x :: r, k + 1 => by
    simp only [snapUpd, List.getElem?_cons_succ, snapUpd_get cs is bs r k]; rfl

/-- one report acts on each switch separately -/
theorem swApply_get (s : PSw) (o : SOp) (n : Nat) :
    (swApply s o).logical[n]? = (s.logical[n]?).map (fun cur => sayAt s n cur o) := by
  cases o with
  | snap bits => exact snapUpd_get _ _ _ _ n
  | ev m a =>
    simp only [swApply, sayAt]
    by_cases hc : s.cfg[m]? = some true
    · simp only [hc, if_true, setAt_eq_set, List.getElem?_set']
      by_cases hm : m = n
      · -- the event is for `n` itself: both sides store `a` (`Function.const` on the left comes from `getElem?_set'`)
        subst hm
        simp [hc]
        rfl
      · simp [hm]
    · have : ∀ cur, (if m = n ∧ s.cfg[n]? = some true then a else cur) = cur :=
        fun cur => if_neg (fun ⟨e, h⟩ => hc (e ▸ h))
      simp [hc, this]

theorem sayAt_swApply (s : PSw) (o : SOp) : sayAt (swApply s o) = sayAt s := by
  have h : (swApply s o).cfg = s.cfg ∧ (swApply s o).inv = s.inv := by
    cases o with
    | snap bits => exact ⟨rfl, rfl⟩
    | ev n a => simp only [swApply]; split <;> exact ⟨rfl, rfl⟩
  funext n cur o'
  cases o' <;> simp [sayAt, h.1, h.2]

theorem swRun_get (ops : List SOp) : ∀ (s : PSw) (n : Nat),
    (swRun s ops).logical[n]? = (s.logical[n]?).map (fun cur => ops.foldl (sayAt s n) cur) := by
  induction ops with
  | nil => intro s n; simp [swRun]
  | cons o r ih =>
    intro s n
    simp only [swRun, List.foldl_cons]
    rw [ih, swApply_get, Option.map_map, sayAt_swApply]
    rfl

/-- a report says nothing about switch `n` -/
def Silent (s : PSw) (n : Nat) (o : SOp) : Prop := ∀ cur, sayAt s n cur o = cur

theorem foldl_silent (s : PSw) (n : Nat) (post : List SOp) (h : ∀ o ∈ post, Silent s n o) (cur : Bool) :
    post.foldl (sayAt s n) cur = cur := by
  induction post generalizing cur with
  | nil => rfl
  | cons o r ih =>
    simp only [List.foldl_cons]
    rw [h o List.mem_cons_self cur]
    exact ih (fun x hx => h x (List.mem_cons_of_mem _ hx)) cur

theorem swRun_append (a b : List SOp) (s : PSw) : swRun s (a ++ b) = swRun (swRun s a) b := by
  induction a generalizing s with
  | nil => rfl
  | cons o r ih => simp [swRun, ih]

theorem swRun_hw_events (ops : List SOp) (s : PSw) (h : ∀ o ∈ ops, ∀ b, o ≠ .snap b) : (swRun s ops).hw = s.hw := by
  induction ops generalizing s with
  | nil => rfl
  | cons o r ih =>
    simp only [swRun]
    rw [ih _ (fun x hx => h x (List.mem_cons_of_mem _ hx))]
    cases o with
    | snap b => exact absurd rfl (h _ List.mem_cons_self b)
    | ev n a => simp only [swApply]; split <;> rfl

/-- frame lengths the automaton can be waiting for -/
def NeedOk (m : AMode) : Prop := 1 ≤ need m ∧ need m ≤ 9

theorem aStep_needOk (m : AMode) (b : Nat) (h : NeedOk m) : NeedOk (aStep m b).1 := by
  cases m with
  | body acc n =>
    simp only [NeedOk, need] at h
    simp only [aStep]; split <;> simp only [NeedOk, need] <;> omega
  -- `idle`, `lost`, `hdr`: every branch of `aStep` leads to a mode whose `need` is 5, 6, 7 or 9
  | _ => simp only [aStep]; split <;> (try split) <;> simp [NeedOk, need]

theorem feed_needOk (l : Bytes) : ∀ m, NeedOk m → NeedOk (feed aStep m l).1 := by
  induction l with
  | nil => intro m h; exact h
  | cons b r ih => intro m h; rw [feed_cons]; exact ih _ (aStep_needOk m b h)

theorem modeOf_eoms (l : Bool) (k : Nat) : (feed aStep (modeOf l) (List.replicate k EOM)).1 = modeOf l := by
  induction k with
  | zero => rfl
  | succ n ih =>
    rw [List.replicate_succ, feed_cons]
    have : aStep (modeOf l) EOM = (modeOf l, []) := by cases l <;> decide
    rw [this]; exact ih

/-- `9` is the longest wait the automaton can be in (`NeedOk`: the bytes of a matrix frame after its command): that many
idle bytes complete or abandon whatever it was reading -/
theorem eoms_settle (m : AMode) (h : NeedOk m) (k : Nat) (hk : 9 ≤ k) :
    ∃ l, (feed aStep m (List.replicate k EOM)).1 = modeOf l := by
  cases m with
  | idle => exact ⟨false, modeOf_eoms false k⟩
  | lost => exact ⟨true, modeOf_eoms true k⟩
  | hdr a =>
    have : aStep (.hdr a) EOM = (.lost, []) := by simp [aStep, EOM, CMD_INP, CMD_MTX]
    refine ⟨true, ?_⟩
    rw [show k = (k - 1) + 1 by omega, List.replicate_succ, feed_cons, this]
    exact modeOf_eoms true _
  | body acc n =>
    simp only [NeedOk, need] at h
    have e : List.replicate k EOM = List.replicate n EOM ++ List.replicate (k - n) EOM := by
      rw [List.replicate_append_replicate]
      congr 1
      omega
    refine ⟨false, ?_⟩
    rw [e, run_body (List.replicate n EOM) acc n _ (by simp) h.1]
    exact modeOf_eoms false _

/-- whatever bytes `g` arrived, after at least nine idle bytes a well-formed frame of either format is decoded exactly -/
theorem resync_after_idle (g : Bytes) (k a c n : Nat) (p : Bytes) (hk : 9 ≤ k) (ha : isAddr a = true)
    (hc : IsFrame c n) (hp : p.length = n) :
    feed aStep (feed aStep (feed aStep .idle g).1 (List.replicate k EOM)).1 (a :: c :: p) = (.idle, [a :: c :: p]) := by
  obtain ⟨l, hl⟩ := eoms_settle _ (feed_needOk g .idle ⟨by decide, by decide⟩) k hk
  rw [hl]
  exact frame_from_rest l a c n p ha hc hp

theorem wRun_append (s : WSt) (a b : List WOp) : wRun s (a ++ b) = wRun (wRun s a) b := by
  induction a generalizing s with
  | nil => rfl
  | cons o r ih => simp [wRun, ih]

/-- ids handed to the communicator, in call order -/
def enqueued : List WOp → List Nat
  | [] => []
  | .enq m :: r => m.id :: enqueued r
  | _ :: r => enqueued r

theorem wStep_fifo (s : WSt) (o : WOp) :
    (wStep s o).log ++ (wStep s o).queue.map (·.id) = s.log ++ s.queue.map (·.id) ++ enqueued [o] := by
  cases o with
  | enq m => simp [wStep, enqueued]
  | step =>
    simp only [wStep, enqueued, List.append_nil]
    cases hq : s.queue with
    | nil => simp [hq]
    | cons m q =>
      simp only
      cases m.confirm <;> simp
  | recv h =>
    simp only [wStep, enqueued, List.append_nil]
    cases s.until_ with
    | none => rfl
    | some u => simp only; split <;> rfl

theorem enqueued_cons (o : WOp) (r : List WOp) : enqueued (o :: r) = enqueued [o] ++ enqueued r := by
  cases o <;> simp [enqueued]

theorem wRun_fifo (ops : List WOp) : ∀ s : WSt,
    (wRun s ops).log ++ (wRun s ops).queue.map (·.id) = s.log ++ s.queue.map (·.id) ++ enqueued ops := by
  induction ops with
  | nil => intro s; simp [wRun, enqueued]
  | cons o r ih =>
    intro s
    simp only [wRun]
    rw [ih, wStep_fifo, enqueued_cons o r]
    simp [List.append_assoc]

/-- at most one command is queued, and none while a confirmation is outstanding -/
def WInv (s : WSt) : Prop := (s.flag = true → s.queue = []) ∧ s.queue.length ≤ 1

theorem wStep_inv (s : WSt) (o : WOp) (h : WInv s) (hd : ∀ m, o = .enq m → s.flag = false ∧ s.queue = []) :
    WInv (wStep s o) ∧ violates s o = false := by
  obtain ⟨h1, h2⟩ := h
  cases o with
  | enq m =>
    obtain ⟨hf, hq⟩ := hd m rfl
    exact ⟨⟨fun h => by simp [wStep, hf] at h, by simp [wStep, hq]⟩, rfl⟩
  | step =>
    cases hq : s.queue with
    | nil => simp [WInv, wStep, violates, hq]
    | cons m q =>
      have hq0 : q = [] := by rw [hq] at h2; simpa using h2
      have hf : s.flag = false := by
        cases hf : s.flag with
        | false => rfl
        | true => rw [h1 hf] at hq; cases hq
      have : (wStep s .step).queue = [] := by simp only [wStep, hq]; cases m.confirm <;> exact hq0
      exact ⟨⟨fun _ => this, by rw [this]; exact Nat.zero_le 1⟩, by simp [violates, hf]⟩
  | recv hdr =>
    refine ⟨?_, rfl⟩
    simp only [wStep]
    cases s.until_ with
    | none => exact ⟨h1, h2⟩
    | some u =>
      simp only; split
      · exact ⟨fun h => (by cases h), h2⟩
      · exact ⟨h1, h2⟩

theorem countViol_disciplined (ops : List WOp) :
    ∀ s : WSt, WInv s → disciplined s ops = true → countViol s ops = 0 := by
  induction ops with
  | nil => intro s _ _; rfl
  | cons o r ih =>
    intro s h hd
    simp only [disciplined, Bool.and_eq_true] at hd
    obtain ⟨hi, hv⟩ := wStep_inv s o h (fun m e => by subst e; simpa using hd.1)
    simp only [countViol, hv, ih _ hi hd.2]
    rfl

/-! CRC-8.  A byte is a polynomial over GF(2) of degree below 8, xor the sum.  `sh` multiplies by X modulo the generator
X⁸+X²+X+1; the table entry for `x` is `x·X⁸` reduced, i.e. eight steps.  The rest follows from `sh` being linear and
one-to-one. -/

def sh (c : Nat) : Nat := 2 * c % 256 ^^^ 7 * (c / 128 % 2)

theorem crc8Table_eq : Gen.crc8Table = (List.range 256).map (Nat.repeat sh 8) := by decide +kernel

theorem xor_lt (a b : Nat) (ha : a < 256) (hb : b < 256) : a ^^^ b < 256 :=
  Nat.xor_lt_two_pow (n := 8) ha hb

theorem xor_eq_zero_eq (a b : Nat) (h : a ^^^ b = 0) : a = b := by
  rw [← Nat.xor_zero a, ← h, ← Nat.xor_assoc, Nat.xor_self, Nat.zero_xor]

theorem sh_lt (c : Nat) : sh c < 256 := xor_lt _ _ (by omega) (by omega)

theorem sh_xor (a b : Nat) : sh (a ^^^ b) = sh a ^^^ sh b := by
  have h7 : ∀ p, p < 2 → ∀ q, q < 2 → 7 * (p ^^^ q) = 7 * p ^^^ 7 * q := by decide
  have e2 : ∀ x, 2 * x = x <<< 1 := fun x => by rw [Nat.shiftLeft_eq]; omega
  unfold sh
  rw [e2, e2, e2, Nat.shiftLeft_xor_distrib, Nat.xor_mod_two_pow (n := 8), Nat.xor_div_two_pow (n := 7),
    Nat.xor_mod_two_pow (n := 1), h7 _ (Nat.mod_lt _ (by omega)) _ (Nat.mod_lt _ (by omega))]
  ac_rfl

/-- the generator has constant term 1: a reduction makes the result odd, a plain shift of a nonzero byte is nonzero -/
theorem sh_eq_zero (c : Nat) (hc : c < 256) (h : sh c = 0) : c = 0 := by
  have e : 2 * c % 256 = 7 * (c / 128 % 2) := xor_eq_zero_eq _ _ h
  rcases Nat.mod_two_eq_zero_or_one (c / 128) with h7 | h7 <;> rw [h7] at e <;> omega

theorem rep_lt (n c : Nat) (hc : c < 256) : Nat.repeat sh n c < 256 := by
  cases n with
  | zero => exact hc
  | succ n => exact sh_lt _

theorem rep_xor (n a b : Nat) : Nat.repeat sh n (a ^^^ b) = Nat.repeat sh n a ^^^ Nat.repeat sh n b := by
  induction n with
  | zero => rfl
  | succ n ih => simp only [Nat.repeat, ih, sh_xor]

theorem rep_eq_zero (n c : Nat) (hc : c < 256) (h : Nat.repeat sh n c = 0) : c = 0 := by
  induction n with
  | zero => exact h
  | succ n ih => exact ih (sh_eq_zero _ (rep_lt n c hc) h)

theorem rep_inj (n a b : Nat) (ha : a < 256) (hb : b < 256) (h : Nat.repeat sh n a = Nat.repeat sh n b) : a = b :=
  xor_eq_zero_eq a b (rep_eq_zero n _ (xor_lt a b ha hb) (by rw [rep_xor, h, Nat.xor_self]))

theorem rep_add (m n c : Nat) : Nat.repeat sh (m + n) c = Nat.repeat sh m (Nat.repeat sh n c) := by
  induction m with
  | zero => rw [Nat.zero_add]; rfl
  | succ m ih => rw [Nat.succ_add]; simp only [Nat.repeat, ih]

theorem rep_small (n c : Nat) (h : c * 2 ^ n < 256) : Nat.repeat sh n c = c * 2 ^ n := by
  induction n with
  | zero => simp [Nat.repeat]
  | succ n ih =>
    rw [Nat.pow_succ, ← Nat.mul_assoc] at h ⊢
    simp only [Nat.repeat]
    have hs : c * 2 ^ n < 128 := by omega
    rw [ih (by omega)]
    simp [sh, Nat.div_eq_of_lt hs, Nat.mod_eq_of_lt (show 2 * (c * 2 ^ n) < 256 by omega), Nat.mul_comm]

theorem tbl_eq (x : Nat) (h : x < 256) : Gen.crc8Table.getD x 0 = Nat.repeat sh 8 x := by
  simp [crc8Table_eq, h]

theorem crcStep_eq (c b : Nat) (hc : c < 256) (hb : b < 256) : crcStep c b = Nat.repeat sh 8 (c ^^^ b) :=
  tbl_eq _ (xor_lt c b hc hb)

theorem crcStep_lt (c b : Nat) (hc : c < 256) (hb : b < 256) : crcStep c b < 256 := by
  rw [crcStep_eq c b hc hb]; exact sh_lt _

theorem crcStep_eq_zero (c b : Nat) (hc : c < 256) (hb : b < 256) : crcStep c b = 0 ↔ c = b := by
  rw [crcStep_eq c b hc hb]
  exact ⟨fun h => xor_eq_zero_eq c b (rep_eq_zero 8 _ (xor_lt c b hc hb) h), fun h => by rw [h, Nat.xor_self]; rfl⟩

theorem crcStep_lin (c d b e : Nat) (hc : c < 256) (hd : d < 256) (hb : b < 256) (he : e < 256) :
    crcStep (c ^^^ d) (b ^^^ e) = crcStep c b ^^^ crcStep d e := by
  rw [crcStep_eq c b hc hb, crcStep_eq d e hd he, crcStep_eq _ _ (xor_lt c d hc hd) (xor_lt b e hb he), ← rep_xor]
  congr 1
  ac_rfl

theorem crcStep_inj (c b c' b' : Nat) (hc : c < 256) (hb : b < 256) (hc' : c' < 256) (hb' : b' < 256)
    (h : crcStep c b = crcStep c' b') : c ^^^ c' = b ^^^ b' :=
  (crcStep_eq_zero _ _ (xor_lt c c' hc hc') (xor_lt b b' hb hb')).mp
    (by rw [crcStep_lin c c' b b' hc hc' hb hb', h, Nat.xor_self])

theorem foldl_crc_lt (m : Bytes) : ∀ c, c < 256 → (∀ b ∈ m, b < 256) → m.foldl crcStep c < 256 := by
  induction m with
  | nil => intro c hc _; simpa
  | cons x t ih =>
    intro c hc hm
    obtain ⟨hx, ht⟩ := List.forall_mem_cons.mp hm
    exact ih _ (crcStep_lt c x hc hx) ht

theorem foldl_crc_inj (m : Bytes) : ∀ c c', c < 256 → c' < 256 → (∀ b ∈ m, b < 256) →
    m.foldl crcStep c = m.foldl crcStep c' → c = c' := by
  induction m with
  | nil => intro c c' _ _ _ h; simpa using h
  | cons x t ih =>
    intro c c' hc hc' hm h
    obtain ⟨hx, ht⟩ := List.forall_mem_cons.mp hm
    exact xor_eq_zero_eq c c' ((crcStep_inj c x c' x hc hx hc' hx
      (ih _ _ (crcStep_lt c x hc hx) (crcStep_lt c' x hc' hx) ht h)).trans (Nat.xor_self x))

theorem crc8_single_byte (p s : Bytes) (b b' : Nat) (hp : ∀ x ∈ p, x < 256) (hs : ∀ x ∈ s, x < 256)
    (hb : b < 256) (hb' : b' < 256) (hne : b ≠ b') : crc8 (p ++ b :: s) ≠ crc8 (p ++ b' :: s) := by
  unfold crc8
  simp only [List.foldl_append, List.foldl_cons]
  intro h
  have hc : p.foldl crcStep 255 < 256 := foldl_crc_lt p 255 (by omega) hp
  have := foldl_crc_inj s _ _ (crcStep_lt _ b hc hb) (crcStep_lt _ b' hc hb') hs h
  exact hne (xor_eq_zero_eq b b' ((crcStep_inj _ b _ b' hc hb hc hb' this).symm.trans (Nat.xor_self _)))

/-- bytewise xor of a message with an error pattern -/
def xorL : Bytes → Bytes → Bytes
  | a :: r, b :: t => (a ^^^ b) :: xorL r t
  | _, _ => []

theorem xorL_lt (m : Bytes) :
    ∀ e : Bytes, (∀ b ∈ m, b < 256) → (∀ b ∈ e, b < 256) → ∀ x ∈ xorL m e, x < 256 := by
  induction m with
  | nil => intro e _ _ x hx; cases e <;> simp [xorL] at hx
  | cons a r ih =>
    intro e hm he x hx
    cases e with
    | nil => simp [xorL] at hx
    | cons b t =>
      obtain ⟨ha, hr⟩ := List.forall_mem_cons.mp hm
      obtain ⟨hb, ht⟩ := List.forall_mem_cons.mp he
      rcases List.mem_cons.mp hx with rfl | hx
      · exact xor_lt _ _ ha hb
      · exact ih t hr ht x hx

theorem foldl_crc_lin (m : Bytes) : ∀ (e : Bytes) (c d : Nat), m.length = e.length → c < 256 → d < 256 →
    (∀ b ∈ m, b < 256) → (∀ b ∈ e, b < 256) →
    (xorL m e).foldl crcStep (c ^^^ d) = m.foldl crcStep c ^^^ e.foldl crcStep d := by
  induction m with
  | nil => intro e c d hl _ _ _ _; cases e <;> simp_all [xorL]
  | cons a r ih =>
    intro e c d hl hc hd hm he
    cases e with
    | nil => simp at hl
    | cons b t =>
      obtain ⟨ha, hr⟩ := List.forall_mem_cons.mp hm
      obtain ⟨hb, ht⟩ := List.forall_mem_cons.mp he
      simp only [xorL, List.foldl_cons]
      rw [crcStep_lin c d a b hc hd ha hb]
      exact ih t _ _ (by simpa using hl) (crcStep_lt c a hc ha) (crcStep_lt d b hd hb) hr ht

theorem crcOk_concat (d : Bytes) (x : Nat) : crcOk (d ++ [x]) = (crc8 d == x) := by simp [crcOk]

/-- the CRC check of `opp.py` is the classical residue test: the CRC over the whole frame, CRC byte included, is 0 -/
theorem crcOk_iff_residue (f : Bytes) (hf : ∀ b ∈ f, b < 256) : crcOk f = true ↔ f.foldl crcStep 255 = 0 := by
  by_cases hne : f = []
  · subst hne; decide
  obtain ⟨d, x, rfl⟩ : ∃ d x, f = d ++ [x] := ⟨f.dropLast, f.getLast hne, (List.dropLast_concat_getLast hne).symm⟩
  have hd : crc8 d < 256 := foldl_crc_lt d 255 (by omega) (fun b hb => hf b (by simp [hb]))
  rw [crcOk_concat, List.foldl_append, beq_iff_eq]
  exact (crcStep_eq_zero _ x hd (hf x (by simp))).symm

theorem crcOk_xorL (f e : Bytes) (hlen : f.length = e.length) (hf : ∀ b ∈ f, b < 256) (he : ∀ b ∈ e, b < 256)
    (hok : crcOk f = true) : crcOk (xorL f e) = true ↔ e.foldl crcStep 0 = 0 := by
  have lin := foldl_crc_lin f e 255 0 hlen (by omega) (by omega) hf he
  rw [Nat.xor_zero, (crcOk_iff_residue f hf).mp hok, Nat.zero_xor] at lin
  rw [crcOk_iff_residue _ (xorL_lt f e hf he), lin]

theorem mul_pow_lt (a m n : Nat) (h : a < 2 ^ m) : a * 2 ^ n < 2 ^ (m + n) := by
  rw [Nat.pow_add]
  exact Nat.mul_lt_mul_of_pos_right h (Nat.two_pow_pos n)

/-- the burst patterns: the low `j` bits of one byte (`e1`) and the high `8-j` bits of the next (`h * 2^j`) -/
theorem burst_bounds (j h e1 : Nat) (hj : j ≤ 8) (h1 : e1 < 2 ^ j) (h2 : h < 2 ^ (8 - j)) :
    e1 < 256 ∧ h * 2 ^ j < 256 := by
  have := mul_pow_lt h (8 - j) j h2
  rw [show 8 - j + j = 8 by omega] at this
  exact ⟨Nat.lt_of_lt_of_le h1 (Nat.pow_le_pow_right (by omega) hj), this⟩

/-- `e1·X⁸` is `j` steps from `e1·2^(8-j)`, as `h·2^j` is `j` steps from `h`: were the two equal, `e1·2^(8-j)` would be
`h`, which is below `2^(8-j)`. -/
theorem burst_ne (j h e1 : Nat) (hj : j ≤ 8) (h1 : e1 < 2 ^ j) (h2 : h < 2 ^ (8 - j)) (hnz : e1 ≠ 0 ∨ h ≠ 0) :
    crcStep 0 e1 ≠ h * 2 ^ j := by
  obtain ⟨b1, b2⟩ := burst_bounds j h e1 hj h1 h2
  have b3 : e1 * 2 ^ (8 - j) < 256 := by
    have := mul_pow_lt e1 j (8 - j) h1
    rwa [show j + (8 - j) = 8 by omega] at this
  have b4 : h < 256 := Nat.lt_of_le_of_lt (Nat.le_mul_of_pos_right _ (Nat.two_pow_pos _)) b2
  -- the left side as `j` steps from `e1·2^(8-j)`
  rw [crcStep_eq 0 e1 (by omega) b1, Nat.zero_xor, show 8 = j + (8 - j) by omega, rep_add, rep_small _ _ b3]
  -- the right side as `j` steps from `h`
  rw [← rep_small j h b2]
  intro hrep
  have e : e1 * 2 ^ (8 - j) = h := rep_inj j _ _ b3 b4 hrep
  -- hence `e1 = 0`, and then `h = 0`
  have : e1 < 1 := Nat.lt_of_mul_lt_mul_right (a := 2 ^ (8 - j)) (by rw [e, Nat.one_mul]; exact h2)
  have he1 : e1 = 0 := by omega
  rw [he1, Nat.zero_mul] at e
  omega

theorem zeros_from_zero (i : Nat) : (List.replicate i 0).foldl crcStep 0 = 0 := by
  induction i with
  | zero => rfl
  | succ n ih => rw [List.replicate_succ, List.foldl_cons]; exact ih

theorem burst_residue_ne_zero (i k j h e1 : Nat) (hj : j ≤ 8) (h1 : e1 < 2 ^ j) (h2 : h < 2 ^ (8 - j))
    (hnz : e1 ≠ 0 ∨ h ≠ 0) :
    (List.replicate i 0 ++ [e1, h * 2 ^ j] ++ List.replicate k 0).foldl crcStep 0 ≠ 0 := by
  obtain ⟨b1, b2⟩ := burst_bounds j h e1 hj h1 h2
  have hc := crcStep_lt 0 e1 (by omega) b1
  simp only [List.foldl_append, zeros_from_zero, List.foldl_cons, List.foldl_nil]
  intro h0
  have := foldl_crc_inj (List.replicate k 0) _ 0 (crcStep_lt _ _ hc b2) (by omega) (by simp)
    (h0.trans (zeros_from_zero k).symm)
  exact burst_ne j h e1 hj h1 h2 hnz ((crcStep_eq_zero _ _ hc b2).mp this)

end MpfVerif.Framing
