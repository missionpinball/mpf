/-! GENERATED from mpf/platforms/opp/opp_rs232_intf.py (OppRs232Intf.CRC8_LOOKUP) by harness/corr/C14.py — do not edit. -/
namespace MpfVerif.Gen

/-- `OppRs232Intf.CRC8_LOOKUP` -/
def crc8Table : List Nat := [
  0, 7, 14, 9, 28, 27, 18, 21, 56, 63, 54, 49, 36, 35, 42, 45,
  112, 119, 126, 121, 108, 107, 98, 101, 72, 79, 70, 65, 84, 83, 90, 93,
  224, 231, 238, 233, 252, 251, 242, 245, 216, 223, 214, 209, 196, 195, 202, 205,
  144, 151, 158, 153, 140, 139, 130, 133, 168, 175, 166, 161, 180, 179, 186, 189,
  199, 192, 201, 206, 219, 220, 213, 210, 255, 248, 241, 246, 227, 228, 237, 234,
  183, 176, 185, 190, 171, 172, 165, 162, 143, 136, 129, 134, 147, 148, 157, 154,
  39, 32, 41, 46, 59, 60, 53, 50, 31, 24, 17, 22, 3, 4, 13, 10,
  87, 80, 89, 94, 75, 76, 69, 66, 111, 104, 97, 102, 115, 116, 125, 122,
  137, 142, 135, 128, 149, 146, 155, 156, 177, 182, 191, 184, 173, 170, 163, 164,
  249, 254, 247, 240, 229, 226, 235, 236, 193, 198, 207, 200, 221, 218, 211, 212,
  105, 110, 103, 96, 117, 114, 123, 124, 81, 86, 95, 88, 77, 74, 67, 68,
  25, 30, 23, 16, 5, 2, 11, 12, 33, 38, 47, 40, 61, 58, 51, 52,
  78, 73, 64, 71, 82, 85, 92, 91, 118, 113, 120, 127, 106, 109, 100, 99,
  62, 57, 48, 55, 34, 37, 44, 43, 6, 1, 8, 15, 26, 29, 20, 19,
  174, 169, 160, 167, 178, 181, 188, 187, 150, 145, 152, 159, 138, 141, 132, 131,
  222, 217, 208, 215, 194, 197, 204, 203, 230, 225, 232, 239, 250, 253, 244, 243]

/-- candidate inverse permutation (computed by the generator; the proofs do not use it) -/
def crc8Inv : List Nat := [
  0, 217, 181, 108, 109, 180, 216, 1, 218, 3, 111, 182, 183, 110, 2, 219,
  179, 106, 6, 223, 222, 7, 107, 178, 105, 176, 220, 5, 4, 221, 177, 104,
  97, 184, 212, 13, 12, 213, 185, 96, 187, 98, 14, 215, 214, 15, 99, 186,
  210, 11, 103, 190, 191, 102, 10, 211, 8, 209, 189, 100, 101, 188, 208, 9,
  194, 27, 119, 174, 175, 118, 26, 195, 24, 193, 173, 116, 117, 172, 192, 25,
  113, 168, 196, 29, 28, 197, 169, 112, 171, 114, 30, 199, 198, 31, 115, 170,
  163, 122, 22, 207, 206, 23, 123, 162, 121, 160, 204, 21, 20, 205, 161, 120,
  16, 201, 165, 124, 125, 164, 200, 17, 202, 19, 127, 166, 167, 126, 18, 203,
  131, 90, 54, 239, 238, 55, 91, 130, 89, 128, 236, 53, 52, 237, 129, 88,
  48, 233, 133, 92, 93, 132, 232, 49, 234, 51, 95, 134, 135, 94, 50, 235,
  226, 59, 87, 142, 143, 86, 58, 227, 56, 225, 141, 84, 85, 140, 224, 57,
  81, 136, 228, 61, 60, 229, 137, 80, 139, 82, 62, 231, 230, 63, 83, 138,
  65, 152, 244, 45, 44, 245, 153, 64, 155, 66, 46, 247, 246, 47, 67, 154,
  242, 43, 71, 158, 159, 70, 42, 243, 40, 241, 157, 68, 69, 156, 240, 41,
  32, 249, 149, 76, 77, 148, 248, 33, 250, 35, 79, 150, 151, 78, 34, 251,
  147, 74, 38, 255, 254, 39, 75, 146, 73, 144, 252, 37, 36, 253, 145, 72]

end MpfVerif.Gen
